import PppModel.Basic
import PppModel.Std.Utf8
import PppModel.Std.Int
import PppModel.Std.Ipv4
import PppModel.Std.Ipv6
import PppModel.V1.Model
import PppModel.V1.Parse
import PppModel.V1.Ctor
import PppModel.V2.Model
import PppModel.V2.Parse
import PppModel.V2.Tlv
import PppModel.V2.Builder
import PppModel.Auto
import PppModel.Spec.Utf8
import PppModel.Spec.V1
import PppModel.Spec.V2
import PppModel.Spec.Tlv
import PppModel.Spec.Builder
import PppModel.Lemmas.Bytes
import PppModel.Lemmas.Utf8
import PppModel.Lemmas.Utf8Spec
import PppModel.Lemmas.Digits
import PppModel.Lemmas.Ipv4Port
import PppModel.Lemmas.SpecText
import PppModel.Lemmas.Ipv6GrammarHex
import PppModel.Lemmas.Ipv6Grammar
import PppModel.Lemmas.Ipv6Roundtrip
import PppModel.Lemmas.V2
import PppModel.Lemmas.Tlv
import PppModel.Lemmas.Builder
import PppModel.Lemmas.Stream
import PppModel.Lemmas.V2Stream
import PppModel.Lemmas.V2Blame
import PppModel.Lemmas.V2NoPanic
import PppModel.Lemmas.V1Split
import PppModel.Lemmas.V1Header
import PppModel.Lemmas.V1Window
import PppModel.Lemmas.V1Term
import PppModel.Lemmas.V1Blame
import PppModel.Lemmas.V1Accept
import PppModel.Lemmas.V1Entry
import PppModel.Lemmas.V1NoPanic
import PppModel.Lemmas.V1Prefix
import PppModel.Lemmas.AutoDetect
import PppModel.Props.C01
import PppModel.Props.C02
import PppModel.Props.C03
import PppModel.Props.C04
import PppModel.Props.C05
import PppModel.Props.C06
import PppModel.Props.C07
import PppModel.Props.C08
import PppModel.Props.C09
import PppModel.Props.C10
import PppModel.Props.C11
import PppModel.Props.C12
import PppModel.Props.C13
import PppModel.Props.C14
import PppModel.Props.C15
import PppModel.Props.C16
import PppModel.Props.C17
import PppModel.Props.C18
import PppModel.Props.C19
import PppModel.Props.C20
