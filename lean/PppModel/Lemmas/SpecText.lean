import PppModel.Spec.V1
import PppModel.Lemmas.Ipv6GrammarHex
import PppModel.Lemmas.V1Split

/-!
The decimal forms of the v1 grammar are the texts of the std models, in both directions:
`Spec.V1.Decimal s n ↔ s = StdInt.dec n`, `PortText s p ↔ V1.parsePort s = .ok p`,
`Ipv4Text s a ↔ s = displayIpv4 a ↔ parseIpv4 s = some a`. After that, what the model parsers answer
on a text outside the grammar: `parseIpv4` nothing, `parsePort` an error, whose payload is worked out
for a plain decimal that overflows or is followed by a non-digit.
-/

namespace StdNet

theorem foldl_eq_valAcc (s : B) (acc : Nat) :
    s.foldl (fun acc c => acc * 10 + (c.toNat - 0x30)) acc = valAcc acc s := by
  induction s generalizing acc with
  | nil => rfl
  | cons c cs ih => rw [List.foldl_cons, ih, valAcc_cons]

theorem decValue_eq_valAcc (s : B) : Spec.V1.decValue s = valAcc 0 s :=
  foldl_eq_valAcc s 0

theorem decimal_iff_canon (s : B) (n : Nat) : Spec.V1.Decimal s n ↔ Canon s ∧ valAcc 0 s = n := by
  unfold Spec.V1.Decimal
  rw [decValue_eq_valAcc]
  exact ⟨fun ⟨h1, h2, h3, h4⟩ => ⟨⟨h1, h2, h3⟩, h4⟩, fun ⟨⟨h1, h2, h3⟩, h4⟩ => ⟨h1, h2, h3, h4⟩⟩

theorem decimal_iff_dec (s : B) (n : Nat) : Spec.V1.Decimal s n ↔ s = StdInt.dec n :=
  (decimal_iff_canon s n).trans StdInt.canon_valAcc_iff_dec

theorem portText_iff_dec (s : B) (p : UInt16) : Spec.V1.PortText s p ↔ s = StdInt.dec p.toNat :=
  decimal_iff_dec s p.toNat

theorem portText_iff_parse (s : B) (p : UInt16) : Spec.V1.PortText s p ↔ V1.parsePort s = .ok p := by
  rw [Spec.V1.PortText, decimal_iff_canon, V1.parsePort_iff_canon]

theorem ipv4Text_iff_display (s : B) (a : Ip4) : Spec.V1.Ipv4Text s a ↔ s = displayIpv4 a := by
  unfold Spec.V1.Ipv4Text
  simp only [decimal_iff_dec]
  constructor
  · rintro ⟨A, B, C, D, rfl, rfl, rfl, rfl, h⟩
    exact h
  · intro h
    exact ⟨_, _, _, _, rfl, rfl, rfl, rfl, h⟩

/-- The grammar's dotted quad is exactly what `Ipv4Addr::from_str` accepts. -/
theorem ipv4Text_iff_parse (s : B) (a : Ip4) : Spec.V1.Ipv4Text s a ↔ parseIpv4 s = some a := by
  rw [ipv4Text_iff_display, parseIpv4_iff]

end StdNet

/-! ## Texts outside the grammar -/

namespace V1

/-- Plain decimal other than `0`: digits, the first of them not `0`. -/
theorem decimal_pos {s : B} {n : Nat} (hd : Spec.V1.Decimal s n) (h0 : n ≠ 0) :
    ∃ c rest, s = c :: rest ∧ (∀ d ∈ s, IsDig d) ∧ c ≠ 0x30 ∧ valAcc 0 s = n := by
  obtain ⟨⟨hne, hdig, hz⟩, hval⟩ := (StdNet.decimal_iff_canon s n).mp hd
  cases s with
  | nil => exact absurd rfl hne
  | cons c rest =>
    refine ⟨c, rest, rfl, hdig, fun hc => h0 ?_, hval⟩
    rw [← hval, hz (by rw [hc]; rfl)]
    rfl

/-- Plain decimal beyond 65535 followed by anything (`99999x`): the overflow is reported,
`Some(PosOverflow)`. -/
theorem parsePort_overflow_first {s : B} {n : Nat} (hd : Spec.V1.Decimal s n) (hn : 65535 < n) (r : B) :
    parsePort (s ++ r) = .error (some .posOverflow) := by
  obtain ⟨c, rest, rfl, hdig, hc0, hval⟩ := decimal_pos hd (by omega)
  exact parsePort_of_head_isDig (hdig c (List.mem_cons_self ..)) hc0 (rest ++ r)
    (StdInt.parseDigits_overflow hdig r (by omega) (by rw [hval]; exact hn))

/-- Plain decimal beyond 65535: `Some(PosOverflow)`. -/
theorem parsePort_overflow {s : B} {n : Nat} (hd : Spec.V1.Decimal s n) (hn : 65535 < n) :
    parsePort s = .error (some .posOverflow) := by
  have := parsePort_overflow_first hd hn []
  rwa [List.append_nil] at this

/-- Plain decimal within range followed by a byte that is not a digit (`6553x`, `80 `):
`Some(InvalidDigit)`. -/
theorem parsePort_digit_first {s : B} {n : Nat} (hd : Spec.V1.Decimal s n) (hn : n ≤ 65535)
    (h0 : n ≠ 0) {c : UInt8} (hc : ¬ IsDig c) (r : B) :
    parsePort (s ++ c :: r) = .error (some .invalidDigit) := by
  obtain ⟨d, rest, rfl, hdig, hd0, hval⟩ := decimal_pos hd h0
  exact parsePort_of_head_isDig (hdig d (List.mem_cons_self ..)) hd0 (rest ++ c :: r)
    (StdInt.parseDigits_invalid hdig hc r (by rw [hval]; exact hn))

theorem parseIpv4_none_of_spec {s : B} (h : ∀ a, ¬ Spec.V1.Ipv4Text s a) : StdNet.parseIpv4 s = none :=
  Option.eq_none_iff_forall_ne_some.mpr fun a hp => h a ((StdNet.ipv4Text_iff_parse s a).mpr hp)

theorem parsePort_error_of_spec {s : B} (h : ∀ p, ¬ Spec.V1.PortText s p) : ∃ k, parsePort s = .error k := by
  cases hp : parsePort s with
  | error k => exact ⟨k, rfl⟩
  | ok p => exact absurd ((StdNet.portText_iff_parse s p).mpr hp) (h p)

/-- The converses: a text the model's field parser refuses is outside the grammar. -/
theorem not_ipv4Text_of_none {s : B} (h : StdNet.parseIpv4 s = none) (a : Ip4) : ¬ Spec.V1.Ipv4Text s a := by
  intro ht; rw [(StdNet.ipv4Text_iff_parse s a).mp ht] at h; cases h

theorem not_portText_of_error {s : B} {k} (h : parsePort s = .error k) (p : UInt16) :
    ¬ Spec.V1.PortText s p := by
  intro ht; rw [(StdNet.portText_iff_parse s p).mp ht] at h; cases h

/-! ## The field texts of the grammar contain no separator

(For IPv6 text: `ipv6Text_sepFree` in Lemmas/Ipv6Grammar.) -/

theorem sepFree_of_addrBytes {s : B} (h : ∀ c ∈ s, StdNet.AddrByte c) : sepFree s := by
  intro c hc
  have := StdNet.addrByte_toNat (h c hc)
  exact isSep_eq_false (by rintro rfl; revert this; decide) (by rintro rfl; revert this; decide)

theorem dec_sepFree (n : Nat) : sepFree (StdInt.dec n) :=
  sepFree_of_addrBytes (StdNet.dec_bytes n)

theorem portText_sepFree {s : B} {p : UInt16} (h : Spec.V1.PortText s p) : sepFree s := by
  rw [(StdNet.portText_iff_dec s p).mp h]; exact dec_sepFree _

theorem ipv4Text_sepFree {s : B} {a : Ip4} (h : Spec.V1.Ipv4Text s a) : sepFree s := by
  rw [(StdNet.ipv4Text_iff_display s a).mp h]; exact sepFree_of_addrBytes (StdNet.displayIpv4_bytes a)

end V1
