import PppModel.Lemmas.V1Window
import PppModel.Lemmas.V2
import PppModel.Auto

/-!
# Where the two versions meet: `HeaderResult::parse` and the text parser on binary input

`Auto.parse` runs the binary parser and hands the input to the text parser exactly when the binary
verdict is a terminal error.  The first part has that as three equations (`Auto.parse_of_ok`,
`parse_of_incomplete`, `parse_of_terminal`) and one case distinction (`parse_cases`).

The second part is what the text parser does with an input the binary parser took an interest in:
one that passed the v2 signature gate (`V1.parseBytes_of_gate_ok`), or a well-formed v2 header
one of whose signature bytes was replaced (`V1.parseBytes_set_signature`).  Such an input has a CR
among its first three bytes with a byte after it, so the text window is at most four bytes long and
the verdict is `InvalidPrefix` or `InvalidUtf8`: never a success, never a request for more.  Hence
the dispatcher asks for more whenever the text parser does (`Auto.incomplete_of_v1`).
-/

namespace Auto

theorem parse_of_ok {x : B} {h : V2.Header} (hv : V2.parse x = .ok h) : parse x = .v2 (.ok h) := by
  unfold parse; rw [hv]; rfl

theorem parse_of_incomplete {x : B} {e : V2.ParseError} (hv : V2.parse x = .error e)
    (he : e.isIncomplete = true) : parse x = .v2 (.error e) := by
  unfold parse
  rw [hv]
  show (if (!e.isIncomplete && true) = true then _ else _) = _
  rw [he]; rfl

theorem parse_of_terminal {x : B} {e : V2.ParseError} (hv : V2.parse x = .error e)
    (he : e.isIncomplete = false) : parse x = .v1 (V1.parseBytes x) := by
  unfold parse
  rw [hv]
  show (if (!e.isIncomplete && true) = true then _ else _) = _
  rw [he]; rfl

/-- The three equations as one case distinction on the v2 verdict. -/
theorem parse_cases (x : B) :
    (∃ h, V2.parse x = .ok h ∧ parse x = .v2 (.ok h)) ∨
    (∃ e, V2.parse x = .error e ∧ e.isIncomplete = true ∧ parse x = .v2 (.error e)) ∨
    (∃ e, V2.parse x = .error e ∧ e.isIncomplete = false ∧ parse x = .v1 (V1.parseBytes x)) := by
  cases hv : V2.parse x with
  | ok h => exact .inl ⟨h, rfl, parse_of_ok hv⟩
  | error e =>
    cases he : e.isIncomplete with
    | true => exact .inr (.inl ⟨e, rfl, he, parse_of_incomplete hv he⟩)
    | false => exact .inr (.inr ⟨e, rfl, he, parse_of_terminal hv he⟩)

/-- A v1-tagged result is the text parser's, after a terminal failure of the binary parser. -/
theorem parse_eq_v1_iff (x : B) (r : Except V1.BinaryParseError V1.Header) :
    parse x = .v1 r ↔ r = V1.parseBytes x ∧ ∃ e, V2.parse x = .error e ∧ e.isIncomplete = false := by
  constructor
  · intro h
    rcases parse_cases x with ⟨h', -, hp⟩ | ⟨e, -, -, hp⟩ | ⟨e, hv, he, hp⟩ <;> rw [hp] at h <;> cases h
    exact ⟨rfl, e, hv, he⟩
  · rintro ⟨rfl, e, hv, he⟩
    exact parse_of_terminal hv he

end Auto

namespace V1

/-! ## The text parser on an input with a CR among its first three bytes -/

/-- A header that contains a separator and is shorter than `PROXY`: its first field is not
`PROXY`. -/
theorem parseHeader_short {w : B} {c : UInt8} (hc : isSep c = true) (hmem : c ∈ w)
    (hlen : w.length < 5) : parseHeader w = .error .invalidPrefix := by
  rcases splitOnce_cases w with ⟨h, -⟩ | ⟨a, c', r, ha, hc', rfl, -⟩
  · exact absurd (h c hmem) (by rw [hc]; decide)
  · refine parseHeader_bad_keyword ha ?_ hc' (Nat.le_of_lt (Nat.lt_trans hlen (by decide)))
    rintro rfl
    rw [List.length_append] at hlen
    exact Nat.not_lt.mpr (Nat.le_add_right 5 _) hlen

/-- The byte entry point on an input whose first CR comes within its first three bytes and is
followed by a byte. -/
theorem parseBytes_short_line {body : B} (c : UInt8) (rest : B) (hb : crFree body)
    (hlen : body.length < 3) :
    parseBytes (body ++ [CR, c] ++ rest) =
      if Utf8.valid (body ++ [CR, c]) then .error (.parse .invalidPrefix) else .error .invalidUtf8 := by
  obtain ⟨hw, ht⟩ := window_line c rest hb
  rw [parseBytes_of_window hw, ht, parseHeader_short isSep_CR (List.mem_append_right _ (.head _))
    (by rw [List.length_append]; exact Nat.add_lt_add_right hlen 2)]
  rfl

/-- On an input that starts with `CR LF` the text parser sees the window `CR LF`, whose first
field is empty: `InvalidPrefix`. -/
theorem parseBytes_crlf (t : B) : parseBytes (CR :: LF :: t) = .error (.parse .invalidPrefix) :=
  parseBytes_short_line (body := []) LF t crFree_nil (by decide)

/-- An input that passes the v2 signature gate starts with `CR LF`. -/
theorem parseBytes_of_gate_ok {x : B} (hg : V2.gate x = .ok ()) :
    parseBytes x = .error (.parse .invalidPrefix) := by
  obtain ⟨h12, hl⟩ := (V2.gate_ok_iff x).mp hg
  rw [V2.eq_frame h12 hl]
  exact parseBytes_crlf _

/-! ## A v2 header with one signature byte replaced -/

/-- A byte `v` that is followed by LF is valid only if it is US-ASCII: every multi-byte form needs
a continuation byte next. -/
theorem valid_before_LF (v : UInt8) : Utf8.valid [v, LF, CR, LF] = decide (v < 0x80) := by
  unfold Utf8.valid
  by_cases h : v < 0x80
  · rw [if_pos h, decide_eq_true h]; rfl
  · simp only [h, ↓reduceIte, Utf8.isCont, LF, UInt8.reduceLE, decide_false, Bool.false_and, ite_self]

/-- Likewise a last byte. -/
theorem valid_last (v : UInt8) : Utf8.valid [CR, v] = decide (v < 0x80) := by
  unfold Utf8.valid
  rw [if_pos (by decide)]
  unfold Utf8.valid
  by_cases h : v < 0x80
  · rw [if_pos h, decide_eq_true h]; rfl
  · simp only [h, ↓reduceIte, ite_self, decide_false]

/-- What the text parser answers on a well-formed v2 header with one signature byte replaced:
`InvalidUtf8` if one of the first two bytes was replaced by a byte ≥ 0x80 (it is then inside the
window `… CR x`), `InvalidPrefix` otherwise. -/
theorem parseBytes_set_signature (cmd : V2.Command) (tr : V2.Transport) (addr : V2.Addresses)
    (rest trail : B) (i : Nat) (v : UInt8) (hv : v ≠ byteAt Spec.V2.signature i) :
    parseBytes ((Spec.V2.encode cmd tr addr rest ++ trail).set i v) =
      if i < 2 ∧ 0x80 ≤ v then .error .invalidUtf8 else .error (.parse .invalidPrefix) := by
  obtain ⟨t, ht⟩ : ∃ t, Spec.V2.encode cmd tr addr rest ++ trail = CR :: LF :: CR :: LF :: t :=
    ⟨_, by rw [V2.encode_eq_frame]; rfl⟩
  rw [ht]
  have hfin : ∀ j, j < 2 →
      (if decide (v < 0x80) = true then .error (.parse .invalidPrefix) else .error .invalidUtf8) =
        if j < 2 ∧ 0x80 ≤ v then (.error .invalidUtf8 : Except BinaryParseError Header)
        else .error (.parse .invalidPrefix) := by
    intro j hj
    simp only [hj, true_and, decide_eq_true_eq, ← UInt8.not_lt, ite_not]
  rcases i with _ | _ | k
  · have hb : crFree [v, LF] := crFree_cons.mpr ⟨hv, crFree_cons.mpr ⟨by decide, crFree_nil⟩⟩
    exact (parseBytes_short_line LF t hb (Nat.lt_succ_self 2)).trans
      ((valid_before_LF v).symm ▸ hfin 0 (by decide))
  · exact (parseBytes_short_line (body := []) v _ crFree_nil (by decide)).trans
      ((valid_last v).symm ▸ hfin 1 (by decide))
  · rw [List.set_cons_succ, List.set_cons_succ, if_neg fun h => Nat.not_lt.mpr (Nat.le_add_left 2 k) h.1]
    exact parseBytes_crlf _

end V1

/-- Whenever the text parser asks for more bytes, so does the dispatcher: an input the binary
parser accepts passes the signature gate, where the text parser's verdict is final. -/
theorem Auto.incomplete_of_v1 {y : B} (h : Auto.isIncompleteV1 (V1.parseBytes y) = true) :
    (Auto.parse y).isIncomplete = true := by
  rcases Auto.parse_cases y with ⟨hd, hv, -⟩ | ⟨e, -, he, hp⟩ | ⟨e, -, -, hp⟩
  · obtain ⟨c, f, t, hi, lo, p, rfl, -⟩ := (V2.parse_ok_iff y hd).mp hv
    rw [V1.parseBytes_of_gate_ok (V2.gate_frame ..)] at h; cases h
  · rw [hp]; exact he
  · rw [hp]; exact h
