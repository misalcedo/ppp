import PppModel.Lemmas.V2
import PppModel.Auto
import PppModel.Lemmas.Stream

/-!
# The v2 parser on a growing buffer

* an accepted header is a function of its own `16 + declared length` bytes
  (`parse_header_append`, `parse_trailing`, `parse_header_self`);
* every proper prefix of an accepted header is reported incomplete
  (`prefix_incomplete`, with the exact error in `prefix_incomplete_exact`);
* a terminal error is final (`terminal_stable`);
* a receiver that re-parses its buffer after every read ends with the header,
  however the bytes are chunked (`streaming`).
-/

namespace V2

/-! ## An accepted header depends only on its own bytes -/

/-- An accepted header followed by anything parses to itself: the input is an encoding with a
trailer (`accepted_is_encoding`), and the parser on an encoding ignores the trailer (`parse_encode`). -/
theorem parse_header_append {x : B} {h : Header} (hp : parse x = .ok h) (t : B) :
    parse (h.header ++ t) = .ok h := by
  obtain ⟨rest, -, hle, he, -⟩ := accepted_is_encoding hp
  rw [he]
  exact parse_encode _ _ _ rest t hle

/-- T1: bytes after an accepted header never change the result. -/
theorem parse_trailing {x : B} {h : Header} (hp : parse x = .ok h) (t : B) :
    parse (x ++ t) = .ok h := by
  obtain ⟨-, -, -, trail, hx, -⟩ := accepted_shape hp
  rw [hx, List.append_assoc]
  exact parse_header_append hp _

/-- T2: an accepted header parses to itself, is a prefix of the input, and is
exactly the first `16 + declared length` bytes. -/
theorem parse_header_self {x : B} {h : Header} (hp : parse x = .ok h) :
    parse h.header = .ok h ∧ h.header <+: x ∧
    h.header = x.take (16 + be16 (byteAt x 14) (byteAt x 15)) ∧
    h.header.length = 16 + be16 (byteAt x 14) (byteAt x 15) := by
  refine ⟨(congrArg parse (List.append_nil _)).symm.trans (parse_header_append hp []), ?_⟩
  obtain ⟨c, f, tr, hi, lo, p, rfl, -, h2, rfl⟩ := (parse_ok_iff _ h).mp hp
  rw [frame_hi, frame_lo, frame_take, frame_length, List.length_take_of_le h2]
  refine ⟨?_, rfl, rfl⟩
  rw [← frame_take]
  exact List.take_prefix _ _

/-! ## Proper prefixes of an accepted header are incomplete -/

/-- T3, exact form: the error reported on the first `n` bytes of an accepted
header, `n` smaller than its length. -/
theorem prefix_incomplete_exact {x : B} {h : Header} (hp : parse x = .ok h) (n : Nat)
    (hn : n < h.header.length) :
    parse (x.take n) = .error (if n < 16 then .incomplete n
      else .partialHdr (n - 16) (be16 (byteAt x 14) (byteAt x 15))) := by
  obtain ⟨c, f, tr, hi, lo, p, rfl, h1, h2, rfl⟩ := (parse_ok_iff x h).mp hp
  rw [frame_length, List.length_take, Nat.min_eq_left h2] at hn
  rw [frame_hi, frame_lo]
  by_cases h16 : n < 16
  · -- cut inside the fixed part: the gate sees `n` bytes, the first twelve of them a prefix of the signature
    rw [if_pos h16]
    apply parse_of_gate_error
    rw [gate_eq, List.length_take, frame_length,
      Nat.min_eq_left (Nat.le_trans (Nat.le_of_lt h16) (Nat.le_add_right ..)), if_pos h16, if_pos]
    rw [List.take_take, Nat.min_comm, ← List.take_take, frame_sig]
    exact List.take_prefix _ _
  · -- cut inside the payload: a frame with `n - 16` payload bytes
    obtain ⟨k, rfl⟩ : ∃ k, n = 16 + k := ⟨n - 16, (Nat.add_sub_cancel' (Nat.le_of_not_lt h16)).symm⟩
    have hk : k < be16 hi lo := Nat.lt_of_add_lt_add_left hn
    rw [if_neg h16, frame_take, parse_wf, if_neg (Nat.not_lt.mpr h1),
      List.length_take_of_le (Nat.le_trans (Nat.le_of_lt hk) h2), if_pos hk, Nat.add_sub_cancel_left]

/-- T3: every proper prefix of an accepted header is reported incomplete. -/
theorem prefix_incomplete {x : B} {h : Header} (hp : parse x = .ok h) (n : Nat)
    (hn : n < h.header.length) :
    Auto.isIncompleteV2 (parse (x.take n)) = true := by
  rw [prefix_incomplete_exact hp n hn]
  split <;> rfl

/-! ## Terminal errors are final -/

/-- T4: a terminal v2 error is final: no later byte can change it. -/
theorem terminal_stable {x : B} {e : ParseError} (hp : parse x = .error e)
    (he : e.isIncomplete = false) (t : B) : parse (x ++ t) = .error e := by
  rcases parse_cases x with ⟨e', hg, he'⟩ | ⟨vc, afp, hi, lo, p, e', rfl, hc, he'⟩ |
    ⟨c, f, tr, hi, lo, p, rfl⟩
  · -- a rejected signature stays rejected: the first twelve bytes only grow
    rw [hp] at he'; cases he'
    rcases gate_error hg with ⟨rfl, -⟩ | ⟨rfl, hs⟩
    · cases he
    · exact parse_badPrefix fun h => hs ((List.prefix_take_iff.mpr
        ⟨(List.take_prefix _ _).trans (List.prefix_append _ _), List.length_take_le 12 x⟩).trans h)
  · rw [hp] at he'; cases he'
    rw [frame_append, parse_frame, hc]
  · rw [frame_append]
    rw [parse_wf] at hp ⊢
    rcases ite_eq_cases hp with ⟨h1, hp⟩ | ⟨-, hp⟩
    · rw [if_pos h1]; exact hp
    · rcases ite_eq_cases hp with ⟨-, hp⟩ | ⟨-, hp⟩
      · cases hp; cases he
      · cases hp

/-! ## Streaming -/

/-- A receiver that appends each read to its buffer, re-parses the whole buffer
and stops at the first result that is not incomplete. `none` = still waiting
after the last read. -/
def receive (buf : B) : List B → Option (Except ParseError Header)
  | [] => none
  | r :: rs =>
    let buf' := buf ++ r
    if Auto.isIncompleteV2 (parse buf') then receive buf' rs else some (parse buf')

theorem receive_eq (buf : B) (reads : List B) :
    receive buf reads = C05.receive parse Auto.isIncompleteV2 buf reads := by
  induction reads generalizing buf with
  | nil => rfl
  | cons r rs ih => rw [receive, C05.receive, ih]

/-- T5: a receiver starting from the empty buffer that is fed an accepted header
followed by any payload, cut into reads in any way, ends with that header. -/
theorem streaming {x : B} {h : Header} (hp : parse x = .ok h) (payload : B) (reads : List B)
    (hr : reads.flatten = x ++ payload) : receive [] reads = some (.ok h) := by
  obtain ⟨hself, ⟨s, hs⟩, -, hl⟩ := parse_header_self hp
  rw [receive_eq]
  exact C05.streaming parse Auto.isIncompleteV2 (s := s ++ payload)
    (by rw [hl]; exact Nat.add_pos_left (by decide) _) (prefix_incomplete hself)
    (fun _ => parse_trailing hself _) rfl (by rw [hr, ← hs, List.append_assoc])

/-- Non-vacuity: an IPv4 header delivered in five reads (one of them empty, the
last one carrying two payload bytes); the receiver waits through the first four. -/
example :
    receive [] [[0x0D, 0x0A, 0x0D], [], [0x0A, 0x00, 0x0D, 0x0A, 0x51, 0x55, 0x49, 0x54, 0x0A, 0x21],
      [0x11, 0x00, 0x0C, 127, 0, 0, 1], [192, 168, 1, 1, 0, 80, 1, 187, 0x50, 0x52]] =
    some (parse [0x0D, 0x0A, 0x0D, 0x0A, 0x00, 0x0D, 0x0A, 0x51, 0x55, 0x49, 0x54, 0x0A,
      0x21, 0x11, 0x00, 0x0C, 127, 0, 0, 1, 192, 168, 1, 1, 0, 80, 1, 187]) ∧
    receive [] [[0x0D, 0x0A, 0x0D], [], [0x0A, 0x00, 0x0D, 0x0A, 0x51, 0x55, 0x49, 0x54, 0x0A, 0x21],
      [0x11, 0x00, 0x0C, 127, 0, 0, 1]] = none ∧
    Auto.isErr (parse [0x0D, 0x0A, 0x0D, 0x0A, 0x00, 0x0D, 0x0A, 0x51, 0x55, 0x49, 0x54, 0x0A,
      0x21, 0x11, 0x00, 0x0C, 127, 0, 0, 1, 192, 168, 1, 1, 0, 80, 1, 187]) = false := by
  decide +kernel

end V2
