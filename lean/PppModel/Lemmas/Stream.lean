import PppModel.Basic

/-!
# A receiver that re-parses its growing buffer, for an abstract parser

`C05.streaming` is the history form of C05 once and for all parsers: every entry point gets its
theorem by supplying "proper prefixes of the header are incomplete" and "the header followed by
anything gives the result".
-/

namespace C05

/-- A receiver that appends each read to its buffer, re-parses the whole buffer
and stops at the first result that is not incomplete. `none`: still waiting
after the last read. -/
def receive {R : Type} (parse : B → R) (inc : R → Bool) (buf : B) : List B → Option R
  | [] => none
  | r :: rs =>
    if inc (parse (buf ++ r)) then receive parse inc (buf ++ r) rs else some (parse (buf ++ r))

/-- The streaming theorem for an abstract parser: if the stream starts with `hdr`, every proper
prefix of `hdr` is incomplete, and `hdr` followed by any part of the rest of the stream gives the
complete result `res`, then the receiver ends with `res` however the stream is cut into reads. -/
theorem streaming {R : Type} (parse : B → R) (inc : R → Bool) {hdr s : B} {res : R}
    (hpos : 0 < hdr.length) (hpre : ∀ n, n < hdr.length → inc (parse (hdr.take n)) = true)
    (hok : ∀ m, parse (hdr ++ s.take m) = res) (hres : inc res = false)
    {reads : List B} (hr : reads.flatten = hdr ++ s) :
    receive parse inc [] reads = some res := by
  -- generalised for the induction: from any buffer still shorter than `hdr`
  suffices ∀ buf, buf ++ reads.flatten = hdr ++ s → buf.length < hdr.length →
      receive parse inc buf reads = some res from this [] hr hpos
  clear hr
  induction reads with
  | nil =>
    intro buf hb hlt
    rw [List.flatten_nil, List.append_nil] at hb
    exact absurd (hb ▸ hlt) (Nat.not_lt.mpr (List.length_append ▸ Nat.le_add_right ..))
  | cons r rs ih =>
    intro buf hb hlt
    have hb' : (buf ++ r) ++ rs.flatten = hdr ++ s := (List.append_assoc ..).trans hb
    have htake : (hdr ++ s).take (buf ++ r).length = buf ++ r := hb' ▸ List.take_left' rfl
    unfold receive
    by_cases hlen : (buf ++ r).length < hdr.length
    · rw [if_pos (by rw [← htake, List.take_append_of_le_length (Nat.le_of_lt hlen)]; exact hpre _ hlen)]
      exact ih (buf ++ r) hb' hlen
    · rw [← htake, List.take_append, List.take_of_length_le (Nat.not_lt.mp hlen), hok, hres]
      rfl

end C05
