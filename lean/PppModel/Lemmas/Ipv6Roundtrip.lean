import PppModel.Lemmas.Ipv6Grammar

/-!
# `Display for Ipv6Addr` prints an RFC 4291 text of the address, of at most 39 bytes

With `StdNet.parseIpv6_iff_text` this is the round trip `StdNet.parseIpv6_displayIpv6`.
-/

namespace StdNet

open Spec.V1 (HexGroup Groups TailPieces HeadPieces Ipv4Text v4Groups Ipv6Pieces Ipv6Text)

/-! ## the zero-span search -/

/-- All groups inside the span are zero; stated as an equation between sublists, so that a
non-empty span lies inside the list and the list splits around it by `take_append_drop`. -/
def ZeroRun (gs : List Nat) (s : Span) : Prop := (gs.drop s.start).take s.len = List.replicate s.len 0

theorem zeroRun_extend {gs : List Nat} {s l : Nat} (h : ZeroRun gs ⟨s, l⟩) (h0 : gs[s + l]? = some 0) :
    ZeroRun gs ⟨s, l + 1⟩ := by
  unfold ZeroRun at h ⊢
  simp only at h ⊢
  rw [List.take_add_one, h, List.getElem?_drop, h0, List.replicate_succ']
  rfl

/-- Loop invariant of the zero-span search after `n` groups: the current span ends at `n`. -/
def SpanInv (gs : List Nat) (n : Nat) (st : Span × Span) : Prop :=
  ZeroRun gs st.1 ∧ ZeroRun gs st.2 ∧ (st.2.len = 0 ∨ st.2.start + st.2.len = n)

/-- On a zero group the current span grows by one (restarting at `i` if it was empty) and replaces
the longest one if it is now longer. -/
theorem zeroSpanStep_zero (longest : Span) (cs cl i : Nat) :
    zeroSpanStep (longest, ⟨cs, cl⟩) (i, 0) =
      (if cl + 1 > longest.len then ⟨if cl = 0 then i else cs, cl + 1⟩ else longest,
        ⟨if cl = 0 then i else cs, cl + 1⟩) := by
  by_cases h : cl = 0 <;> simp [zeroSpanStep, h]

theorem zeroSpanStep_nonzero (st : Span × Span) (i g : Nat) (h : g ≠ 0) :
    zeroSpanStep st (i, g) = (st.1, ⟨0, 0⟩) := by
  simp [zeroSpanStep, h]

theorem zeroSpanStep_inv (gs : List Nat) (n : Nat) (st : Span × Span) (g : Nat)
    (hg : gs[n]? = some g) (h : SpanInv gs n st) : SpanInv gs (n + 1) (zeroSpanStep st (n, g)) := by
  obtain ⟨longest, ⟨cs, cl⟩⟩ := st
  obtain ⟨hl, hc, hend⟩ := h
  by_cases hg0 : g = 0
  · subst hg0
    rw [zeroSpanStep_zero]
    -- the current span, restarted at `n` if it was empty, ends at `n`
    have h0 : ZeroRun gs ⟨if cl = 0 then n else cs, cl⟩ ∧ (if cl = 0 then n else cs) + cl = n := by
      by_cases h : cl = 0
      · subst h; exact ⟨rfl, rfl⟩
      · rw [if_neg h]; exact ⟨hc, hend.resolve_left h⟩
    have hz := zeroRun_extend h0.1 (h0.2.symm ▸ hg)
    have he : (if cl = 0 then n else cs) + (cl + 1) = n + 1 := by rw [← Nat.add_assoc, h0.2]
    by_cases hgt : cl + 1 > longest.len
    · rw [if_pos hgt]; exact ⟨hz, hz, Or.inr he⟩
    · rw [if_neg hgt]; exact ⟨hl, hz, Or.inr he⟩
  · rw [zeroSpanStep_nonzero _ _ _ hg0]
    exact ⟨hl, rfl, Or.inl rfl⟩

theorem zeroSpan_foldl_inv (gs : List Nat) (l : List Nat) (k : Nat) (st : Span × Span)
    (hl : gs.drop k = l) (h : SpanInv gs k st) :
    SpanInv gs (k + l.length)
      (((l.zipIdx k).map (fun (g, i) => (i, g))).foldl zeroSpanStep st) := by
  induction l generalizing k st with
  | nil => exact h
  | cons a l ih =>
    have ha : gs[k]? = some a := by rw [← List.head?_drop, hl]; rfl
    have hl' : gs.drop (k + 1) = l := by rw [← List.drop_drop, hl]; rfl
    have := ih (k + 1) (zeroSpanStep st (k, a)) hl' (zeroSpanStep_inv gs k st a ha h)
    rwa [Nat.add_right_comm] at this

theorem longestZeroSpan_spec (gs : List Nat) : ZeroRun gs (longestZeroSpan gs) :=
  (zeroSpan_foldl_inv gs gs 0 (⟨0, 0⟩, ⟨0, 0⟩) rfl ⟨rfl, rfl, Or.inl rfl⟩).1

theorem zeroRun_split {gs : List Nat} {z : Span} (hz : ZeroRun gs z) :
    gs = gs.take z.start ++ List.replicate z.len 0 ++ gs.drop (z.start + z.len) := by
  rw [← hz, List.append_assoc, ← List.drop_drop, List.take_append_drop, List.take_append_drop]

/-- The three shapes `Display` produces: `::ffff:a.b.c.d`; `head::tail` with a run of at least two
zero groups elided; all eight groups. -/
theorem displayGroups_shape (gs : List Nat) (hb : ∀ g ∈ gs, g < 65536) :
    (∃ ip : Ip4, gs = ([0, 0, 0, 0, 0, 0xFFFF] : List Nat) ++ v4Groups ip ∧
        displayGroups gs = ([0x3A, 0x3A, 0x66, 0x66, 0x66, 0x66, 0x3A] : B) ++ displayIpv4 ip) ∨
    (∃ H T n, 2 ≤ n ∧ gs = H ++ List.replicate n 0 ++ T ∧
        displayGroups gs = fmtGroups H ++ [0x3A, 0x3A] ++ fmtGroups T) ∨
    displayGroups gs = fmtGroups gs := by
  unfold displayGroups
  split
  · rename_i x y
    refine Or.inl ⟨_, ?_, rfl⟩
    show _ = [0, 0, 0, 0, 0, 0xFFFF, be16 _ _, be16 _ _]
    rw [be16_be16Bytes x (hb x (by simp)), be16_be16Bytes y (hb y (by simp))]
  · simp only
    by_cases hz : (longestZeroSpan gs).len > 1
    · rw [if_pos hz]; exact Or.inr (Or.inl ⟨_, _, _, hz, zeroRun_split (longestZeroSpan_spec gs), rfl⟩)
    · rw [if_neg hz]; exact Or.inr (Or.inr rfl)

/-! ## octets and groups -/

/-- Four elements at a time: matching `l` against a sixteen-element pattern in one go is slow to check. -/
theorem list4 {α : Type} {l : List α} {n : Nat} (h : l.length = n + 4) :
    ∃ a b c d t, l = a :: b :: c :: d :: t ∧ t.length = n := by
  match l, h with
  | a :: b :: c :: d :: t, h => exact ⟨a, b, c, d, t, rfl, by simpa using h⟩

theorem segments_spec (a : Ip6) :
    (segments a).length = 8 ∧ (∀ g ∈ segments a, g < 65536) ∧
      a.val = Spec.V1.piecesOctets (segments a) := by
  obtain ⟨l, hl⟩ := a
  obtain ⟨b0, b1, b2, b3, l, rfl, h1⟩ := list4 (n := 12) hl
  obtain ⟨b4, b5, b6, b7, l, rfl, h2⟩ := list4 (n := 8) h1
  obtain ⟨b8, b9, b10, b11, l, rfl, h3⟩ := list4 (n := 4) h2
  obtain ⟨b12, b13, b14, b15, l, rfl, h4⟩ := list4 (n := 0) h3
  obtain rfl := List.eq_nil_of_length_eq_zero h4
  refine ⟨rfl, ?_, ?_⟩
  · intro g hg
    simp only [segments, List.mem_cons, List.not_mem_nil, or_false] at hg
    rcases hg with rfl | rfl | rfl | rfl | rfl | rfl | rfl | rfl <;> exact be16_lt _ _
  · rw [← groupsToOctets_eq]
    simp [segments, groupsToOctets, be16Bytes_be16]

/-! ## `Display` prints an RFC 4291 text -/

theorem groups_fmtGroups (g : Nat) (gs : List Nat) (hb : ∀ x ∈ g :: gs, x < 65536) :
    Groups (fmtGroups (g :: gs)) (g :: gs) := by
  induction gs generalizing g with
  | nil => exact .one _ _ (hexGroup_hexLower (hb g (.head _)))
  | cons g' gs ih =>
    have hb := List.forall_mem_cons.mp hb
    exact .cons _ _ _ _ (hexGroup_hexLower hb.1) (ih g' hb.2)

theorem tailPieces_fmtGroups (gs : List Nat) (hb : ∀ x ∈ gs, x < 65536) : TailPieces (fmtGroups gs) gs := by
  cases gs with
  | nil => exact .empty
  | cons g gs => exact .groups _ _ (groups_fmtGroups g gs hb)

theorem headPieces_fmtGroups (gs : List Nat) (hb : ∀ x ∈ gs, x < 65536) : HeadPieces (fmtGroups gs) gs := by
  cases gs with
  | nil => exact .empty
  | cons g gs => exact .groups _ _ (groups_fmtGroups g gs hb)

/-- The IPv4-mapped form `::ffff:a.b.c.d`. -/
theorem ipv6Pieces_mapped (ip : Ip4) :
    Ipv6Pieces ([0x3A, 0x3A, 0x66, 0x66, 0x66, 0x66, 0x3A] ++ displayIpv4 ip)
      ([0, 0, 0, 0, 0, 0xFFFF] ++ v4Groups ip) := by
  have hff : Groups [0x66, 0x66, 0x66, 0x66] [0xFFFF] :=
    .one _ _ ⟨by decide, by decide, [15, 15, 15, 15], by decide, by decide⟩
  exact Ipv6Pieces.compressed [] [] _ _ .empty
    (.groupsV4 _ _ _ _ hff ((ipv4Text_iff_display _ ip).mpr rfl)) (by simp [v4Groups])

theorem ipv6Pieces_displayGroups (gs : List Nat) (hlen : gs.length = 8) (hb : ∀ g ∈ gs, g < 65536) :
    Ipv6Pieces (displayGroups gs) gs := by
  rcases displayGroups_shape gs hb with ⟨ip, rfl, e⟩ | ⟨H, T, n, hn, rfl, e⟩ | e
  · rw [e]
    exact ipv6Pieces_mapped ip
  · simp only [List.length_append, List.length_replicate] at hlen
    obtain ⟨hHn, hT⟩ := List.forall_mem_append.mp hb
    have := Ipv6Pieces.compressed _ _ _ _ (headPieces_fmtGroups H (List.forall_mem_append.mp hHn).1)
      (tailPieces_fmtGroups T hT) (by omega)
    rw [show 8 - H.length - T.length = n by omega] at this
    rw [e]
    exact this
  · rw [e]
    exact .full _ _ (tailPieces_fmtGroups gs hb) hlen

theorem ipv6Text_displayIpv6 (a : Ip6) : Ipv6Text (displayIpv6 a) a :=
  ⟨segments a, ipv6Pieces_displayGroups _ (segments_spec a).1 (segments_spec a).2.1, (segments_spec a).2.2⟩

/-- The text an IPv6 address formats to parses back to the same address. -/
theorem parseIpv6_displayIpv6 (a : Ip6) : parseIpv6 (displayIpv6 a) = some a :=
  (parseIpv6_iff_text _ _).mpr (ipv6Text_displayIpv6 a)

/-! ## length of the output -/

/-- Every group preceded by a colon. -/
def colonGroups (gs : List Nat) : B := gs.flatMap (fun g => 0x3A :: hexLower g)

@[simp] theorem colonGroups_nil : colonGroups [] = [] := rfl

theorem colonGroups_cons (g : Nat) (gs : List Nat) :
    colonGroups (g :: gs) = 0x3A :: (hexLower g ++ colonGroups gs) := by
  simp [colonGroups]

theorem fmtGroups_cons (g : Nat) (gs : List Nat) : fmtGroups (g :: gs) = hexLower g ++ colonGroups gs := by
  induction gs generalizing g with
  | nil => simp [fmtGroups]
  | cons g' gs ih => rw [fmtGroups, ih, colonGroups_cons] <;> simp

theorem colonGroups_length_le (gs : List Nat) (hb : ∀ g ∈ gs, g < 65536) :
    (colonGroups gs).length ≤ 5 * gs.length := by
  induction gs with
  | nil => simp
  | cons g gs ih =>
    have h1 := hexLower_length_u16 g (hb g (by simp))
    have h2 := ih (fun g' hg' => hb g' (List.mem_cons_of_mem _ hg'))
    rw [colonGroups_cons]
    simp only [List.length_cons, List.length_append]
    omega

theorem fmtGroups_length_le (gs : List Nat) (hb : ∀ g ∈ gs, g < 65536) :
    (fmtGroups gs).length ≤ 5 * gs.length - 1 := by
  cases gs with
  | nil => simp [fmtGroups]
  | cons g gs =>
    have h1 := hexLower_length_u16 g (hb g (by simp))
    have h2 := colonGroups_length_le gs (fun g' hg' => hb g' (List.mem_cons_of_mem _ hg'))
    rw [fmtGroups_cons]
    simp only [List.length_cons, List.length_append]
    omega

theorem displayGroups_length_le (gs : List Nat) (hlen : gs.length = 8) (hb : ∀ g ∈ gs, g < 65536) :
    (displayGroups gs).length ≤ 39 := by
  rcases displayGroups_shape gs hb with ⟨ip, rfl, e⟩ | ⟨H, T, n, hn, rfl, e⟩ | e
  · have := (displayIpv4_length ip).2
    rw [e]
    simp only [List.length_append, List.length_cons, List.length_nil]
    omega
  · obtain ⟨hHn, hT⟩ := List.forall_mem_append.mp hb
    have h1 := Nat.le_trans (fmtGroups_length_le H (List.forall_mem_append.mp hHn).1) (Nat.sub_le _ _)
    have h2 := Nat.le_trans (fmtGroups_length_le T hT) (Nat.sub_le _ _)
    rw [e]
    simp only [List.length_append, List.length_replicate, List.length_cons, List.length_nil] at hlen ⊢
    omega
  · have := fmtGroups_length_le gs hb
    rw [hlen] at this
    rwa [e]

/-- At most 39 bytes: `xxxx:xxxx:xxxx:xxxx:xxxx:xxxx:xxxx:xxxx`. -/
theorem displayIpv6_length (a : Ip6) : (displayIpv6 a).length ≤ 39 := by
  obtain ⟨h8, hb, _⟩ := segments_spec a
  exact displayGroups_length_le (segments a) h8 hb

end StdNet
