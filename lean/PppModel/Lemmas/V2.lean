import PppModel.Spec.V2
import PppModel.V2.Parse
import PppModel.Lemmas.Bytes

/-!
# The v2 parser in closed form

The gate is one `if` on "the first twelve bytes can still become the signature" (`gate_eq`).
Whatever passes it is a *frame* `sig ++ vc :: afp :: hi :: lo :: p` (`eq_frame`), and on a frame
`parse` is a `match` on `control vc afp` and two comparisons with `be16 hi lo` (`parse_frame`).
Appending to, truncating and overwriting a frame are list operations on `p` or on one of the four
bytes, so what the parser does to a grown, cut or damaged input is read off `parse_frame`.

The wire encoding `Spec.V2.encode` of the protocol document is a frame (`encode_eq_frame`) and the
address decoder is inverse to `Spec.V2.addrBytes` in both directions, so the parser on an encoding
followed by anything returns the encoded fields (`parse_encode`), and an accepted input is the
encoding of the fields of its header followed by a trailer (`accepted_is_encoding`). The last section
is about the two byte views of a header value.
-/

namespace V2

theorem sig_eq_spec : sig = Spec.V2.signature := rfl

theorem size_eq_spec (f : Family) : f.size = Spec.V2.familySize f := by
  cases f <;> rfl

theorem afpByte_eq_spec (f : Family) (t : Transport) : afpByte f t = Spec.V2.familyTransport f t := by
  cases f <;> cases t <;> decide

theorem vc_eq_spec (c : Command) : vcByte .two c = Spec.V2.versionCommand c := by cases c <;> decide

/-! ## gate -/

/-- Twelve bytes are a prefix of the signature only by being it. -/
theorem prefix_sig_iff {x : B} (h : 12 ≤ x.length) : x.take 12 <+: sig ↔ x.take 12 = sig :=
  ⟨fun hp => hp.eq_of_length (by rw [List.length_take, Nat.min_eq_left h]; rfl),
   fun he => he ▸ List.prefix_refl _⟩

theorem gate_eq (x : B) :
    gate x = if x.take 12 <+: sig then
        if x.length < 16 then .error (.incomplete x.length) else .ok ()
      else .error .badPrefix := by
  have hs : sig.length = 12 := rfl
  rw [gate, hs, minLen]
  by_cases h12 : x.length < 12
  · rw [if_pos h12, List.take_of_length_le (Nat.le_of_lt h12), if_pos (Nat.lt_trans h12 (by decide))]
    -- the instance is named because the search for `LawfulBEq UInt8` tries the order classes first
    exact ite_congr (propext (@List.isPrefixOf_iff_prefix _ _ instLawfulBEq ..)) (fun _ => rfl) (fun _ => rfl)
  · rw [if_neg h12]
    by_cases h : x.take 12 = sig
    · rw [if_neg (not_not_intro h), if_pos ((prefix_sig_iff (Nat.le_of_not_lt h12)).mpr h)]
    · rw [if_pos h, if_neg (mt (prefix_sig_iff (Nat.le_of_not_lt h12)).mp h)]

theorem gate_ok_iff (x : B) : gate x = .ok () ↔ x.take 12 = sig ∧ 16 ≤ x.length := by
  rw [gate_eq]
  constructor
  · intro h
    rcases ite_eq_cases h with ⟨hp, h⟩ | ⟨-, h⟩
    · rcases ite_eq_cases h with ⟨-, h⟩ | ⟨hl, -⟩
      · cases h
      · have h16 := Nat.le_of_not_lt hl
        exact ⟨(prefix_sig_iff (Nat.le_trans (by decide) h16)).mp hp, h16⟩
    · cases h
  · rintro ⟨h1, h2⟩
    rw [if_pos (h1 ▸ List.prefix_refl _), if_neg (Nat.not_lt.mpr h2)]

theorem gate_error {x : B} {e : ParseError} (h : gate x = .error e) :
    (e = .incomplete x.length ∧ x.length < 16 ∧ x.take 12 <+: sig) ∨
    (e = .badPrefix ∧ ¬ x.take 12 <+: sig) := by
  rw [gate_eq] at h
  rcases ite_eq_cases h with ⟨hp, h⟩ | ⟨hp, h⟩
  · rcases ite_eq_cases h with ⟨hl, h⟩ | ⟨-, h⟩
    · cases h; exact .inl ⟨rfl, hl, hp⟩
    · cases h
  · cases h; exact .inr ⟨rfl, hp⟩

/-! ## control: each decoder inverts its code table on one nibble -/

theorem nibbles_join (b : UInt8) : b = (b &&& 0xF0) ||| (b &&& 0x0F) := by
  rw [← UInt8.toBitVec_inj, UInt8.toBitVec_or, UInt8.toBitVec_and, UInt8.toBitVec_and,
    ← BitVec.and_or_distrib_left]
  exact BitVec.and_allOnes.symm

theorem decodeVersion_ok_iff (b : UInt8) (v : Version) : decodeVersion b = .ok v ↔ b &&& 0xF0 = v.code := by
  constructor
  · intro h; unfold decodeVersion at h
    rcases ite_eq_cases h with ⟨hb, h⟩ | ⟨-, h⟩; · cases h; exact hb
    cases h
  · intro h; rw [decodeVersion, h]; cases v; rfl

theorem decodeCommand_ok_iff (b : UInt8) (c : Command) : decodeCommand b = .ok c ↔ b &&& 0x0F = c.code := by
  constructor
  · intro h; unfold decodeCommand at h
    rcases ite_eq_cases h with ⟨hb, h⟩ | ⟨-, h⟩; · cases h; exact hb
    rcases ite_eq_cases h with ⟨hb, h⟩ | ⟨-, h⟩; · cases h; exact hb
    cases h
  · intro h; rw [decodeCommand, h]; cases c <;> rfl

theorem decodeFamily_ok_iff (b : UInt8) (f : Family) : decodeFamily b = .ok f ↔ b &&& 0xF0 = f.code := by
  constructor
  · intro h; unfold decodeFamily at h
    rcases ite_eq_cases h with ⟨hb, h⟩ | ⟨-, h⟩; · cases h; exact hb
    rcases ite_eq_cases h with ⟨hb, h⟩ | ⟨-, h⟩; · cases h; exact hb
    rcases ite_eq_cases h with ⟨hb, h⟩ | ⟨-, h⟩; · cases h; exact hb
    rcases ite_eq_cases h with ⟨hb, h⟩ | ⟨-, h⟩; · cases h; exact hb
    cases h
  · intro h; rw [decodeFamily, h]; cases f <;> rfl

theorem decodeTransport_ok_iff (b : UInt8) (t : Transport) : decodeTransport b = .ok t ↔ b &&& 0x0F = t.code := by
  constructor
  · intro h; unfold decodeTransport at h
    rcases ite_eq_cases h with ⟨hb, h⟩ | ⟨-, h⟩; · cases h; exact hb
    rcases ite_eq_cases h with ⟨hb, h⟩ | ⟨-, h⟩; · cases h; exact hb
    rcases ite_eq_cases h with ⟨hb, h⟩ | ⟨-, h⟩; · cases h; exact hb
    cases h
  · intro h; rw [decodeTransport, h]; cases t <;> rfl

theorem version_command_iff (b : UInt8) (v : Version) (c : Command) :
    (decodeVersion b = .ok v ∧ decodeCommand b = .ok c) ↔ b = vcByte v c := by
  rw [decodeVersion_ok_iff, decodeCommand_ok_iff]
  constructor
  · rintro ⟨h1, h2⟩; rw [vcByte, ← h1, ← h2]; exact nibbles_join b
  · rintro rfl; cases v; cases c <;> exact ⟨rfl, rfl⟩

theorem family_transport_iff (b : UInt8) (f : Family) (t : Transport) :
    (decodeFamily b = .ok f ∧ decodeTransport b = .ok t) ↔ b = afpByte f t := by
  rw [decodeFamily_ok_iff, decodeTransport_ok_iff]
  constructor
  · rintro ⟨h1, h2⟩; rw [afpByte, ← h1, ← h2]; exact nibbles_join b
  · rintro rfl; cases f <;> cases t <;> decide +kernel

theorem control_ok_iff_decode (vc afp : UInt8) (v : Version) (c : Command) (f : Family) (t : Transport) :
    control vc afp = .ok (v, c, f, t) ↔
      (decodeVersion vc = .ok v ∧ decodeCommand vc = .ok c) ∧
      (decodeFamily afp = .ok f ∧ decodeTransport afp = .ok t) := by
  unfold control
  cases decodeVersion vc with
  | error e => simp only [reduceCtorEq, false_and]
  | ok v' =>
    cases decodeCommand vc with
    | error e => simp only [reduceCtorEq, false_and, and_false]
    | ok c' =>
      cases decodeFamily afp with
      | error e => simp only [reduceCtorEq, false_and, and_false]
      | ok f' =>
        cases decodeTransport afp with
        | error e => simp only [reduceCtorEq, and_false]
        | ok t' => simp only [Except.ok.injEq, Prod.mk.injEq, and_assoc]

theorem control_ok_iff (vc afp : UInt8) (v : Version) (c : Command) (f : Family) (t : Transport) :
    control vc afp = .ok (v, c, f, t) ↔
      vc = Spec.V2.versionCommand c ∧ afp = Spec.V2.familyTransport f t := by
  cases v
  rw [control_ok_iff_decode, version_command_iff, family_transport_iff, vc_eq_spec, afpByte_eq_spec]

theorem decodeVersion_error {b : UInt8} {e} (h : decodeVersion b = .error e) : e = .version (b &&& 0xF0) := by
  unfold decodeVersion at h
  cases ite_ok_eq_error h; rfl

theorem decodeCommand_error {b : UInt8} {e} (h : decodeCommand b = .error e) : e = .command (b &&& 0x0F) := by
  unfold decodeCommand at h
  cases ite_ok_eq_error (ite_ok_eq_error h); rfl

theorem decodeFamily_error {b : UInt8} {e} (h : decodeFamily b = .error e) : e = .addressFamily (b &&& 0xF0) := by
  unfold decodeFamily at h
  cases ite_ok_eq_error (ite_ok_eq_error (ite_ok_eq_error (ite_ok_eq_error h))); rfl

theorem decodeTransport_error {b : UInt8} {e} (h : decodeTransport b = .error e) : e = .protocol (b &&& 0x0F) := by
  unfold decodeTransport at h
  cases ite_ok_eq_error (ite_ok_eq_error (ite_ok_eq_error h)); rfl

theorem control_error_terminal {vc afp : UInt8} {e : ParseError} (h : control vc afp = .error e) :
    e.isIncomplete = false := by
  unfold control at h
  split at h
  next hv => cases h; rw [decodeVersion_error hv]; rfl
  split at h
  next hc => cases h; rw [decodeCommand_error hc]; rfl
  split at h
  next hf => cases h; rw [decodeFamily_error hf]; rfl
  split at h
  next ht => cases h; rw [decodeTransport_error ht]; rfl
  cases h

/-! ## frames -/

/-- An input whose sixteen fixed bytes are present and start with the signature. -/
def frame (vc afp hi lo : UInt8) (p : B) : B := sig ++ vc :: afp :: hi :: lo :: p

theorem frame_length (vc afp hi lo : UInt8) (p : B) : (frame vc afp hi lo p).length = 16 + p.length := by
  rw [Nat.add_comm]; rfl

theorem frame_append (vc afp hi lo : UInt8) (p t : B) :
    frame vc afp hi lo p ++ t = frame vc afp hi lo (p ++ t) := by
  simp only [frame, List.append_assoc, List.cons_append]

theorem frame_take (vc afp hi lo : UInt8) (p : B) (n : Nat) :
    (frame vc afp hi lo p).take (16 + n) = frame vc afp hi lo (p.take n) := by
  rw [Nat.add_comm]; rfl

-- Each of the following holds by `rfl`; with `frame` unfolded beforehand it is checked much faster.

theorem frame_drop (vc afp hi lo : UInt8) (p : B) : (frame vc afp hi lo p).drop 16 = p := by unfold frame; rfl

theorem frame_sig (vc afp hi lo : UInt8) (p : B) : (frame vc afp hi lo p).take 12 = sig := by unfold frame; rfl
theorem frame_vc (vc afp hi lo : UInt8) (p : B) : byteAt (frame vc afp hi lo p) 12 = vc := by unfold frame; rfl
theorem frame_afp (vc afp hi lo : UInt8) (p : B) : byteAt (frame vc afp hi lo p) 13 = afp := by unfold frame; rfl
theorem frame_hi (vc afp hi lo : UInt8) (p : B) : byteAt (frame vc afp hi lo p) 14 = hi := by unfold frame; rfl
theorem frame_lo (vc afp hi lo : UInt8) (p : B) : byteAt (frame vc afp hi lo p) 15 = lo := by unfold frame; rfl

theorem frame_set_vc (vc afp hi lo : UInt8) (p : B) (b : UInt8) :
    (frame vc afp hi lo p).set 12 b = frame b afp hi lo p := by unfold frame; rfl
theorem frame_set_afp (vc afp hi lo : UInt8) (p : B) (b : UInt8) :
    (frame vc afp hi lo p).set 13 b = frame vc b hi lo p := by unfold frame; rfl
theorem frame_set_hi (vc afp hi lo : UInt8) (p : B) (b : UInt8) :
    (frame vc afp hi lo p).set 14 b = frame vc afp b lo p := by unfold frame; rfl
theorem frame_set_lo (vc afp hi lo : UInt8) (p : B) (b : UInt8) :
    (frame vc afp hi lo p).set 15 b = frame vc afp hi b p := by unfold frame; rfl

theorem eq_frame {x : B} (hs : x.take 12 = sig) (hl : 16 ≤ x.length) :
    x = frame (byteAt x 12) (byteAt x 13) (byteAt x 14) (byteAt x 15) (x.drop 16) := by
  have hi : ∀ {i}, i < 16 → i < x.length := fun h => Nat.lt_of_lt_of_le h hl
  rw [frame, ← hs, ← drop_eq_byteAt_cons (i := 15) (hi (by decide)), ← drop_eq_byteAt_cons (i := 14) (hi (by decide)),
    ← drop_eq_byteAt_cons (i := 13) (hi (by decide)), ← drop_eq_byteAt_cons (i := 12) (hi (by decide)),
    List.take_append_drop]

theorem gate_frame (vc afp hi lo : UInt8) (p : B) : gate (frame vc afp hi lo p) = .ok () :=
  (gate_ok_iff _).mpr ⟨frame_sig .., by rw [frame_length]; exact Nat.le_add_right ..⟩

/-! ## the parser on frames -/

theorem parse_frame (vc afp hi lo : UInt8) (p : B) :
    parse (frame vc afp hi lo p) =
      match control vc afp with
      | .error e => .error e
      | .ok (v, c, f, t) =>
        if be16 hi lo < f.size then .error (.invalidAddresses (be16 hi lo) f.size)
        else if p.length < be16 hi lo then .error (.partialHdr p.length (be16 hi lo))
        else .ok { header := frame vc afp hi lo (p.take (be16 hi lo)), version := v, command := c,
                   protocol := t, addresses := parseAddresses f (p.take f.size) } := by
  rw [parse, gate_frame, frame_vc, frame_afp]
  rcases control vc afp with e | ⟨v, c, f, t⟩
  · rfl
  · simp only [body, frame_hi, frame_lo, frame_length, minLen, frame_take, Nat.add_lt_add_iff_left,
      Nat.add_sub_cancel_left, frame_drop, List.take_take]
    -- what is left: `min f.size (be16 hi lo)` against `f.size`, in the branches below the first test
    by_cases h1 : be16 hi lo < f.size
    · rw [if_pos h1, if_pos h1]
    · rw [if_neg h1, if_neg h1, Nat.min_eq_left (Nat.le_of_not_lt h1)]

open Spec.V2 in
/-- The parser on a frame whose control bytes are those of the protocol document. -/
theorem parse_wf (c : Command) (f : Family) (t : Transport) (hi lo : UInt8) (p : B) :
    parse (frame (versionCommand c) (familyTransport f t) hi lo p) =
      if be16 hi lo < familySize f then .error (.invalidAddresses (be16 hi lo) (familySize f))
      else if p.length < be16 hi lo then .error (.partialHdr p.length (be16 hi lo))
      else .ok { header := frame (versionCommand c) (familyTransport f t) hi lo (p.take (be16 hi lo)),
                 version := .two, command := c, protocol := t,
                 addresses := parseAddresses f (p.take (familySize f)) } := by
  rw [parse_frame, (control_ok_iff _ _ .two _ _ _).mpr ⟨rfl, rfl⟩]
  simp only [size_eq_spec]

theorem parse_of_gate_error {x : B} {e : ParseError} (hg : gate x = .error e) :
    parse x = .error e := by
  simp only [parse, hg]

/-- Twelve bytes, or fewer, that cannot become the signature. -/
theorem parse_badPrefix {x : B} (h : ¬ x.take 12 <+: sig) : parse x = .error .badPrefix :=
  parse_of_gate_error (by rw [gate_eq, if_neg h])

theorem parse_of_control_error {x : B} {e : ParseError} (hg : gate x = .ok ())
    (hc : control (byteAt x 12) (byteAt x 13) = .error e) : parse x = .error e := by
  simp only [parse, hg, hc]

open Spec.V2 in
/-- Where an input stops: at the gate, or it is a frame and stops at the control bytes, or it is a
well-formed frame, and then `parse_wf` says what `parse` returns. -/
theorem parse_cases (x : B) :
    (∃ e, gate x = .error e ∧ parse x = .error e) ∨
    (∃ vc afp hi lo p e, x = frame vc afp hi lo p ∧ control vc afp = .error e ∧ parse x = .error e) ∨
    (∃ c f t hi lo p, x = frame (versionCommand c) (familyTransport f t) hi lo p) := by
  cases hg : gate x with
  | error e => exact .inl ⟨e, rfl, parse_of_gate_error hg⟩
  | ok u =>
    obtain ⟨g1, g2⟩ := (gate_ok_iff x).mp hg
    have hx := eq_frame g1 g2
    cases hc : control (byteAt x 12) (byteAt x 13) with
    | error e => exact .inr (.inl ⟨_, _, _, _, _, e, hx, hc, parse_of_control_error hg hc⟩)
    | ok r =>
      obtain ⟨v, c, f, t⟩ := r
      obtain ⟨c1, c2⟩ := (control_ok_iff _ _ _ _ _ _).mp hc
      exact .inr (.inr ⟨c, f, t, _, _, _, by rw [← c1, ← c2]; exact hx⟩)

open Spec.V2 in
theorem parse_ok_iff (x : B) (h : Header) :
    parse x = .ok h ↔ ∃ c f t hi lo p,
      x = frame (versionCommand c) (familyTransport f t) hi lo p ∧
      familySize f ≤ be16 hi lo ∧ be16 hi lo ≤ p.length ∧
      h = { header := frame (versionCommand c) (familyTransport f t) hi lo (p.take (be16 hi lo)),
            version := .two, command := c, protocol := t,
            addresses := parseAddresses f (p.take (familySize f)) } := by
  constructor
  · intro hp
    rcases parse_cases x with ⟨e, -, he⟩ | ⟨_, _, _, _, _, e, -, -, he⟩ | ⟨c, f, t, hi, lo, p, rfl⟩
    · rw [he] at hp; cases hp
    · rw [he] at hp; cases hp
    · rw [parse_wf] at hp
      rcases ite_eq_cases hp with ⟨-, hp⟩ | ⟨h1, hp⟩
      · cases hp
      · rcases ite_eq_cases hp with ⟨-, hp⟩ | ⟨h2, hp⟩
        · cases hp
        · cases hp; exact ⟨c, f, t, hi, lo, p, rfl, Nat.le_of_not_lt h1, Nat.le_of_not_lt h2, rfl⟩
  · rintro ⟨c, f, t, hi, lo, p, rfl, h1, h2, rfl⟩
    rw [parse_wf, if_neg (Nat.not_lt.mpr h1), if_neg (Nat.not_lt.mpr h2)]

open Spec.V2 in
theorem partial_frame {x : B} {a b : Nat} (h : parse x = .error (.partialHdr a b)) :
    ∃ c f t hi lo p, x = frame (versionCommand c) (familyTransport f t) hi lo p ∧
      familySize f ≤ be16 hi lo ∧ p.length < be16 hi lo ∧ a = p.length ∧ b = be16 hi lo := by
  rcases parse_cases x with ⟨e, hg, he⟩ | ⟨_, _, _, _, _, e, -, hc, he⟩ | ⟨c, f, t, hi, lo, p, rfl⟩
  · rw [he] at h; cases h
    rcases gate_error hg with ⟨h, -⟩ | ⟨h, -⟩ <;> cases h
  · rw [he] at h; cases h
    cases control_error_terminal hc
  · rw [parse_wf] at h
    rcases ite_eq_cases h with ⟨-, h⟩ | ⟨h1, h⟩
    · cases h
    · rcases ite_eq_cases h with ⟨h2, h⟩ | ⟨-, h⟩
      · cases h; exact ⟨c, f, t, hi, lo, p, rfl, Nat.le_of_not_lt h1, h2, rfl, rfl⟩
      · cases h

theorem parseAddresses_family (f : Family) (bs : B) : (parseAddresses f bs).family = f := by
  cases f <;> rfl

open Spec.V2 in
/-- An accepted header from its own point of view: the input is its bytes and a trailer, its bytes are a
well-formed frame carrying exactly the declared payload, and its address value is decoded from the
first block of that payload. -/
theorem accepted_shape {x : B} {h : Header} (hp : parse x = .ok h) :
    ∃ hi lo q trail, x = h.header ++ trail ∧
      h.header = frame (versionCommand h.command) (familyTransport h.addressFamily h.protocol) hi lo q ∧
      q.length = be16 hi lo ∧ familySize h.addressFamily ≤ q.length ∧
      h.addresses = parseAddresses h.addressFamily (q.take (familySize h.addressFamily)) := by
  obtain ⟨c, f, t, hi, lo, p, rfl, h1, h2, rfl⟩ := (parse_ok_iff x h).mp hp
  have hq : (p.take (be16 hi lo)).length = be16 hi lo := List.length_take_of_le h2
  simp only [Header.addressFamily, parseAddresses_family]
  exact ⟨hi, lo, _, p.drop (be16 hi lo), by rw [frame_append, List.take_append_drop], rfl, hq, hq.symm ▸ h1,
    by rw [List.take_take, Nat.min_eq_left h1]⟩

/-- Every parsed header owns at least the 16 fixed bytes. -/
theorem accepted_len {x : B} {h : Header} (hp : parse x = .ok h) : 16 ≤ h.header.length := by
  obtain ⟨hi, lo, q, -, -, hh, -⟩ := accepted_shape hp
  rw [hh, frame_length]
  exact Nat.le_add_right ..

/-! ## encodings: the address block and the whole header, against the decoders -/

theorem block2 (n : Nat) (s d r : B) (hs : s.length = n) (hd : d.length = n) :
    (s ++ (d ++ r)).take n = s ∧ ((s ++ (d ++ r)).take (n + n)).drop n = d ∧
    (s ++ (d ++ r)).drop n = d ++ r ∧
    ∀ i, byteAt (s ++ (d ++ r)) (n + n + i) = byteAt r i := by
  have hsd : (s ++ d).length = n + n := by rw [List.length_append, hs, hd]
  refine ⟨List.take_left' hs, ?_, List.drop_left' hs, fun i => ?_⟩
  · rw [← List.append_assoc, List.take_left' hsd, List.drop_left' hs]
  · rw [← byteAt_drop, ← List.append_assoc, List.drop_left' hsd]

theorem addrBytes_length (a : Addresses) :
    (Spec.V2.addrBytes a).length = Spec.V2.familySize a.family := by
  cases a with
  | unspec => rfl
  | ipv4 a => rfl
  | ipv6 a =>
    simp only [Spec.V2.addrBytes, List.length_append, a.srcAddr.property, a.dstAddr.property]
    rfl
  | unix a =>
    simp only [Spec.V2.addrBytes, List.length_append, a.source.property, a.destination.property]
    rfl

/-- Decoding the encoding of an address value gives the value back: the ports by
`portOf_portBytes`, the addresses by evaluation. -/
theorem parseAddresses_addrBytes (a : Addresses) :
    parseAddresses a.family (Spec.V2.addrBytes a) = a := by
  cases a with
  | unspec => rfl
  | ipv4 a =>
    simp only [Spec.V2.addrBytes, Spec.V2.u16be, Addresses.family, parseAddresses, List.cons_append,
      List.nil_append, byteAt_cons_succ, byteAt_cons_zero, portOf_portBytes]
  | ipv6 a =>
    obtain ⟨sa, sp, da, dp⟩ := a
    simp only [Spec.V2.addrBytes, Addresses.family, parseAddresses, List.append_assoc]
    obtain ⟨h1, h2, -, h4⟩ := block2 16 sa.val da.val _ sa.property da.property
    rw [h1, h2, h4 0, h4 1, h4 2, h4 3, FixB.ofList_of_val, FixB.ofList_of_val]
    simp only [Spec.V2.u16be, List.cons_append, List.nil_append, byteAt_cons_succ, byteAt_cons_zero, portOf_portBytes]
  | unix a =>
    obtain ⟨s, d⟩ := a
    simp only [Spec.V2.addrBytes, Addresses.family, parseAddresses]
    obtain ⟨h1, -, h3, -⟩ := block2 108 s.val d.val [] s.property d.property
    simp only [List.append_nil] at h1 h3
    rw [h1, h3, FixB.ofList_of_val, FixB.ofList_of_val]

/-- Encoding the decoding of an address block of the right size gives the block back. -/
theorem addrBytes_parseAddresses (f : Family) (bs : B) (h : bs.length = Spec.V2.familySize f) :
    Spec.V2.addrBytes (parseAddresses f bs) = bs := by
  have hport (hi lo : UInt8) : Spec.V2.u16be (portOf hi lo).toNat = [hi, lo] := portBytes_portOf hi lo
  cases f with
  | unspec => exact (List.eq_nil_of_length_eq_zero h).symm
  | ipv4 =>
    -- both sides are the twelve bytes `byteAt bs 0`, …, `byteAt bs 11`
    conv => rhs; rw [← List.drop_zero (l := bs), drop_eq_map_byteAt bs 0, h]
    simp only [parseAddresses, Spec.V2.addrBytes, hport]
    rfl
  | ipv6 =>
    have h16 : (bs.take 16).length = 16 := by rw [List.length_take, h]; rfl
    have h32 : ((bs.take 32).drop 16).length = 16 := by rw [List.length_drop, List.length_take, h]; rfl
    simp only [parseAddresses, Spec.V2.addrBytes, hport, FixB.ofList_val h16, FixB.ofList_val h32]
    conv => rhs; rw [← List.take_append_drop 32 bs, ← List.take_append_drop 16 (bs.take 32), List.take_take,
      drop_eq_map_byteAt bs 32, h]
    rw [List.append_assoc]
    rfl
  | unix =>
    have h1 : (bs.take 108).length = 108 := by rw [List.length_take, h]; rfl
    have h2 : (bs.drop 108).length = 108 := by rw [List.length_drop, h]; rfl
    simp only [parseAddresses, Spec.V2.addrBytes, FixB.ofList_val h1, FixB.ofList_val h2,
      List.take_append_drop]

theorem encode_eq_frame (cmd : Command) (tr : Transport) (addr : Addresses) (rest : B) :
    Spec.V2.encode cmd tr addr rest =
      frame (Spec.V2.versionCommand cmd) (Spec.V2.familyTransport addr.family tr)
        (UInt8.ofNat (((Spec.V2.addrBytes addr).length + rest.length) / 256))
        (UInt8.ofNat (((Spec.V2.addrBytes addr).length + rest.length) % 256))
        (Spec.V2.addrBytes addr ++ rest) := by
  simp only [Spec.V2.encode, frame, sig_eq_spec, Spec.V2.u16be, List.append_assoc, List.cons_append,
    List.nil_append]

/-- The header value whose bytes are the wire encoding of its own fields. -/
def encHeader (cmd : Command) (tr : Transport) (addr : Addresses) (rest : B) : Header :=
  { header := Spec.V2.encode cmd tr addr rest, version := .two, command := cmd,
    protocol := tr, addresses := addr }

theorem encode_drop16 (cmd : Command) (tr : Transport) (addr : Addresses) (rest : B) :
    (Spec.V2.encode cmd tr addr rest).drop 16 = Spec.V2.addrBytes addr ++ rest := by
  rw [encode_eq_frame]; rfl

open Spec.V2 in
/-- The parser on an encoding followed by anything. -/
theorem parse_encode (cmd : Command) (tr : Transport) (addr : Addresses) (rest trail : B)
    (hle : (addrBytes addr).length + rest.length ≤ 65535) :
    parse (encode cmd tr addr rest ++ trail) = .ok (encHeader cmd tr addr rest) := by
  have hL := be16_be16Bytes _ (Nat.lt_succ_of_le hle)
  have ha : familySize addr.family ≤ (addrBytes addr).length + rest.length :=
    addrBytes_length addr ▸ Nat.le_add_right ..
  rw [encHeader, encode_eq_frame, frame_append, parse_wf, hL, if_neg (Nat.not_lt.mpr ha),
    if_neg (Nat.not_lt.mpr (by rw [List.length_append, List.length_append]; exact Nat.le_add_right ..)),
    ← List.length_append, List.take_left' rfl, ← addrBytes_length, List.append_assoc, List.take_left' rfl,
    parseAddresses_addrBytes]

open Spec.V2 in
/-- A well-formed frame that carries exactly its declared payload is the encoding of what the parser
reads from it. -/
theorem frame_eq_encode (c : Command) (f : Family) (t : Transport) (hi lo : UInt8) {q : B}
    (hq : q.length = be16 hi lo) (hf : familySize f ≤ q.length) :
    frame (versionCommand c) (familyTransport f t) hi lo q =
      encode c t (parseAddresses f (q.take (familySize f))) (q.drop (familySize f)) := by
  have ha : addrBytes (parseAddresses f (q.take (familySize f))) = q.take (familySize f) :=
    addrBytes_parseAddresses f _ (List.length_take_of_le hf)
  -- the length bytes the encoder writes for `q.length` are `hi`, `lo`
  have hb := be16Bytes_be16 hi lo
  rw [← hq] at hb
  rw [encode_eq_frame, parseAddresses_family, ha, ← List.length_append, List.take_append_drop]
  cases hb; rfl

open Spec.V2 in
/-- Conversely, an accepted input is the encoding of the fields of its header, followed by anything. -/
theorem accepted_is_encoding {x : B} {h : Header} (hp : parse x = .ok h) :
    ∃ rest trail, (addrBytes h.addresses).length + rest.length ≤ 65535 ∧
      h = encHeader h.command h.protocol h.addresses rest ∧ x = h.header ++ trail := by
  obtain ⟨hi, lo, q, trail, hx, hh, hq, hf, ha⟩ := accepted_shape hp
  have henc := frame_eq_encode h.command h.addressFamily h.protocol hi lo hq hf
  rw [← hh, ← ha] at henc
  refine ⟨q.drop (familySize h.addressFamily), trail, ?_, ?_, hx⟩
  · rw [ha, addrBytes_parseAddresses _ _ (List.length_take_of_le hf), ← List.length_append,
      List.take_append_drop, hq]
    exact Nat.le_of_lt_succ (be16_lt hi lo)
  · -- `Version` has one value, so `h` and the `encHeader` differ at most in their bytes
    obtain ⟨hd, ⟨⟩, c, t, a⟩ := h
    exact congrArg (Header.mk · .two c t a) henc

/-! ## the two views of a header value -/

theorem Family.byteLength_getD (f : Family) (n : Nat) :
    f.byteLength.getD n = if f = .unspec then n else Spec.V2.familySize f := by
  cases f <;> rfl

namespace Header

/-- The address view is the first `byte_length().unwrap_or(length)` payload bytes, whatever the header
value: the `min` in `address_bytes_end` only repeats what `take` does. -/
theorem addressBytes_eq (h : Header) :
    h.addressBytes = (h.header.drop 16).take (h.addressFamily.byteLength.getD h.length) := by
  simp only [addressBytes, addressBytesEnd, minLen, List.drop_take, Nat.add_sub_cancel_left]
  exact List.take_eq_take_iff.mpr ((Nat.min_assoc ..).trans (congrArg _ (Nat.min_self _)))

theorem tlvBytes_eq (h : Header) :
    h.tlvBytes = (h.header.drop 16).drop (h.addressFamily.byteLength.getD h.length) := by
  simp only [tlvBytes, addressBytesEnd, minLen, ← List.drop_drop]
  exact List.drop_eq_drop_iff.mpr ((Nat.min_assoc ..).trans (congrArg _ (Nat.min_self _)))

theorem views_partition (h : Header) : h.addressBytes ++ h.tlvBytes = h.header.drop 16 := by
  rw [h.addressBytes_eq, h.tlvBytes_eq, List.take_append_drop]

/-- Without an address family the whole payload is the address view. -/
theorem tlvBytes_unspec (h : Header) (hu : h.addressFamily = .unspec) : h.tlvBytes = [] := by
  rw [h.tlvBytes_eq, hu]
  exact List.drop_length

theorem addressBytesEnd_le (h : Header) : h.addressBytesEnd ≤ minLen + h.length :=
  Nat.add_le_add_left (Nat.min_le_right ..) _

/-- `address_bytes_end()` is within the buffer and not below 16. -/
theorem addressBytesEnd_bounds (h : Header) (hl : 16 ≤ h.header.length) :
    minLen ≤ h.addressBytesEnd ∧ h.addressBytesEnd ≤ h.header.length := by
  refine ⟨Nat.le_add_right .., Nat.le_trans h.addressBytesEnd_le (Nat.le_of_eq ?_)⟩
  rw [length, List.length_drop]
  exact Nat.add_sub_cancel' hl

end Header

/-- Views of a header that is the wire encoding of its own fields, with an address family: the
address block and the section behind it. -/
theorem views_of_encode (cmd : Command) (tr : Transport) (addr : Addresses) (rest : B)
    (hfam : addr.family ≠ .unspec) :
    (encHeader cmd tr addr rest).addressBytes = Spec.V2.addrBytes addr ∧
    (encHeader cmd tr addr rest).tlvBytes = rest := by
  have hd : (encHeader cmd tr addr rest).header.drop 16 = _ := encode_drop16 cmd tr addr rest
  have hg : (encHeader cmd tr addr rest).addressFamily.byteLength.getD (encHeader cmd tr addr rest).length =
      (Spec.V2.addrBytes addr).length := by
    rw [Family.byteLength_getD, addrBytes_length]; exact if_neg hfam
  rw [Header.addressBytes_eq, Header.tlvBytes_eq, hg, hd]
  exact ⟨List.take_left' rfl, List.drop_left' rfl⟩

end V2
