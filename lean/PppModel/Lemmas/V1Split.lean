import PppModel.V1.Parse

/-!
# The vocabulary of the v1 proofs: fields, bodies, windows (`src/v1/mod.rs`)

Five definitions that all of v1 uses.  `sepFree` (neither space nor CR) is what a field of a line
is, `crFree` what the body of a line is, and `joinSP fs g` is a line given by its fields: the
input on which `splitN` can be computed (`splitN_joinSP`).  `IsWindow` is what the entry points
hand to `parse_header` (nothing beyond the byte after the first CR), and `frozen` says of an
input that no further byte changes its window.  Around them, what `splitOnce`, `splitN`,
`firstCR`, `windowLength` and `terminated` do on inputs made of such parts.
-/

namespace V1

/-- No space and no CR. -/
def sepFree (s : B) : Prop := ∀ c ∈ s, isSep c = false

/-- No CR. -/
def crFree (s : B) : Prop := ∀ c ∈ s, c ≠ CR

theorem isSep_iff (c : UInt8) : isSep c = true ↔ c = SP ∨ c = CR :=
  Bool.or_eq_true_iff.trans (or_congr decide_eq_true_iff decide_eq_true_iff)

theorem isSep_eq_false {c : UInt8} (h1 : c ≠ SP) (h2 : c ≠ CR) : isSep c = false :=
  Bool.or_eq_false_iff.mpr ⟨decide_eq_false h1, decide_eq_false h2⟩

theorem isSep_SP : isSep SP = true := by decide
theorem isSep_CR : isSep CR = true := by decide

theorem sepFree_nil : sepFree [] := by intro c h; cases h

theorem sepFree_cons {c : UInt8} {s : B} : sepFree (c :: s) ↔ isSep c = false ∧ sepFree s :=
  List.forall_mem_cons

theorem sepFree_append {a b : B} : sepFree (a ++ b) ↔ sepFree a ∧ sepFree b :=
  List.forall_mem_append

theorem sepFree.crFree {s : B} (h : sepFree s) : crFree s := by
  intro c hc hcr
  have := h c hc
  rw [hcr] at this
  exact absurd this (by decide)

theorem crFree_nil : crFree [] := by intro c h; cases h

theorem crFree_cons {c : UInt8} {s : B} : crFree (c :: s) ↔ c ≠ CR ∧ crFree s :=
  List.forall_mem_cons

theorem crFree_append {a b : B} : crFree (a ++ b) ↔ crFree a ∧ crFree b :=
  List.forall_mem_append

theorem sepFree_take {s : B} (h : sepFree s) (k : Nat) : sepFree (s.take k) :=
  fun c hc => h c (List.mem_of_mem_take hc)

theorem crFree_take {s : B} (h : crFree s) (k : Nat) : crFree (s.take k) :=
  fun c hc => h c (List.mem_of_mem_take hc)

theorem crFree_SP : crFree [SP] := by unfold crFree; decide

theorem sepFree_PROXY : sepFree PROXY := by unfold sepFree; decide
theorem sepFree_TCP4 : sepFree TCP4 := by unfold sepFree; decide
theorem sepFree_TCP6 : sepFree TCP6 := by unfold sepFree; decide
theorem sepFree_UNKNOWN : sepFree UNKNOWN := by unfold sepFree; decide

/-! ## `splitOnce` -/

theorem splitOnce_sepFree {s : B} (h : sepFree s) : splitOnce s = (s, none) := by
  induction s with
  | nil => rfl
  | cons c cs ih =>
    obtain ⟨h1, h2⟩ := sepFree_cons.mp h
    simp [splitOnce, h1, ih h2]

theorem splitOnce_append {a : B} {c : UInt8} {r : B} (ha : sepFree a) (hc : isSep c = true) :
    splitOnce (a ++ c :: r) = (a, some r) := by
  induction a with
  | nil => simp [splitOnce, hc]
  | cons d ds ih =>
    obtain ⟨h1, h2⟩ := sepFree_cons.mp ha
    simp [splitOnce, h1, ih h2]

/-- Every string either has no separator, or splits at its first one. -/
theorem splitOnce_cases (s : B) :
    (sepFree s ∧ splitOnce s = (s, none)) ∨
    (∃ a c r, sepFree a ∧ isSep c = true ∧ s = a ++ c :: r ∧ splitOnce s = (a, some r)) := by
  induction s with
  | nil => exact .inl ⟨sepFree_nil, rfl⟩
  | cons d ds ih =>
    cases hd : isSep d with
    | true => exact .inr ⟨[], d, ds, sepFree_nil, hd, rfl, splitOnce_append sepFree_nil hd⟩
    | false =>
      rcases ih with ⟨h1, -⟩ | ⟨a, c, r, h1, h2, rfl, -⟩
      · have hs := sepFree_cons.mpr ⟨hd, h1⟩
        exact .inl ⟨hs, splitOnce_sepFree hs⟩
      · have ha := sepFree_cons.mpr ⟨hd, h1⟩
        exact .inr ⟨d :: a, c, r, ha, h2, rfl, splitOnce_append ha h2⟩

/-! ## `splitN` -/

theorem splitN_sepFree (n : Nat) {s : B} (h : sepFree s) : splitN (n + 1) s = [s] := by
  cases n with
  | zero => rfl
  | succ n => simp [splitN, splitOnce_sepFree h]

theorem splitN_append (n : Nat) {a : B} {c : UInt8} {r : B} (ha : sepFree a) (hc : isSep c = true) :
    splitN (n + 2) (a ++ c :: r) = a :: splitN (n + 1) r := by
  simp [splitN, splitOnce_append ha hc]

theorem splitN_one (s : B) : splitN 1 s = [s] := rfl

theorem splitN_ne_nil (n : Nat) (s : B) : splitN (n + 1) s ≠ [] := by
  cases n with
  | zero => simp [splitN]
  | succ n =>
    simp only [splitN]
    rcases h : splitOnce s with ⟨a, _ | r⟩ <;> simp

/-- Shape of the result of `splitN (n+2)`: either the input has no separator, or it
splits at the first one and the rest is split further. -/
theorem splitN_cases (n : Nat) (s : B) :
    (sepFree s ∧ splitN (n + 2) s = [s]) ∨
    (∃ a c r, sepFree a ∧ isSep c = true ∧ s = a ++ c :: r ∧ splitN (n + 2) s = a :: splitN (n + 1) r) := by
  rcases splitOnce_cases s with ⟨h1, h2⟩ | ⟨a, c, r, h1, h2, h3, h4⟩
  · left; exact ⟨h1, by simp [splitN, h2]⟩
  · right; exact ⟨a, c, r, h1, h2, h3, by simp [splitN, h4]⟩

theorem splitN_eq_singleton {n : Nat} {s p : B} (h : splitN (n + 1) s = [p]) : s = p ∧ (n = 0 ∨ sepFree s) := by
  cases n with
  | zero => exact ⟨by simpa [splitN] using h, .inl rfl⟩
  | succ n =>
    rcases splitN_cases n s with ⟨hsf, hs⟩ | ⟨a, c, r, -, -, -, hs⟩
    · rw [hs] at h; exact ⟨by simpa using h, .inr hsf⟩
    · rw [hs] at h
      exact absurd (List.cons.inj h).2 (splitN_ne_nil n r)

/-- Two parts or more: the input is longer than the first. -/
theorem splitN_two {n : Nat} {s p q : B} {t : List B} (h : splitN (n + 2) s = p :: q :: t) :
    ∃ c r, sepFree p ∧ isSep c = true ∧ s = p ++ c :: r ∧ splitN (n + 1) r = q :: t := by
  rcases splitN_cases n s with ⟨-, hs⟩ | ⟨a, c, r, ha, hc, rfl, hs⟩
  · rw [hs] at h; cases h
  · rw [hs] at h
    obtain ⟨rfl, h'⟩ := List.cons.inj h
    exact ⟨c, r, ha, hc, rfl, h'⟩

/-- `f₁ ++ " " ++ f₂ ++ " " ++ … ++ g` -/
def joinSP : List B → B → B
  | [], g => g
  | f :: fs, g => f ++ SP :: joinSP fs g

/-- The index is written `k + fs.length + 1` so that the step from `fs` to `f :: fs` is the step of
`splitN_append` by definition. -/
theorem splitN_joinSP (fs : List B) (g : B) (hfs : ∀ f ∈ fs, sepFree f) (k : Nat) :
    splitN (k + fs.length + 1) (joinSP fs g) = fs ++ splitN (k + 1) g := by
  induction fs with
  | nil => rfl
  | cons f fs ih =>
    exact (splitN_append (k + fs.length) (hfs f (List.mem_cons_self ..)) isSep_SP).trans
      (congrArg _ (ih fun x hx => hfs x (List.mem_cons_of_mem _ hx)))

theorem joinSP_append (fs : List B) (g e : B) : joinSP fs g ++ e = joinSP fs (g ++ e) := by
  induction fs with
  | nil => rfl
  | cons f fs ih => simp only [joinSP, List.append_assoc, List.cons_append, ih]

theorem crFree_joinSP {fs : List B} {g : B} (hfs : ∀ f ∈ fs, sepFree f) (hg : crFree g) :
    crFree (joinSP fs g) := by
  induction fs with
  | nil => exact hg
  | cons f fs ih =>
    exact crFree_append.mpr ⟨(hfs f (List.mem_cons_self ..)).crFree,
      crFree_cons.mpr ⟨by decide, ih fun x hx => hfs x (List.mem_cons_of_mem _ hx)⟩⟩

/-! ## `firstCR` -/

theorem firstCR_cons_cr (cs : B) : firstCR (CR :: cs) = some 0 := rfl

theorem firstCR_cons_ne {c : UInt8} (hc : c ≠ CR) (cs : B) :
    firstCR (c :: cs) = (firstCR cs).map (· + 1) :=
  if_neg fun h => hc (of_decide_eq_true h)

theorem firstCR_none_iff (s : B) : firstCR s = none ↔ crFree s := by
  induction s with
  | nil => exact iff_of_true rfl crFree_nil
  | cons c cs ih =>
    by_cases hc : c = CR
    · subst hc
      exact iff_of_false nofun fun h => (crFree_cons.mp h).1 rfl
    · rw [firstCR_cons_ne hc, Option.map_eq_none_iff, ih, crFree_cons]
      exact (and_iff_right hc).symm

/-- A CR-free text in front shifts the first CR. -/
theorem firstCR_append_crFree {a : B} (t : B) (ha : crFree a) :
    firstCR (a ++ t) = (firstCR t).map (a.length + ·) := by
  induction a with
  | nil => simp
  | cons d ds ih =>
    obtain ⟨hd, hds⟩ := crFree_cons.mp ha
    rw [List.cons_append, firstCR_cons_ne hd, ih hds, Option.map_map]
    exact congrArg (Option.map · _) (funext fun i => Nat.add_right_comm ..)

theorem firstCR_append_cr {a : B} (r : B) (ha : crFree a) : firstCR (a ++ CR :: r) = some a.length :=
  firstCR_append_crFree _ ha

/-- If `x` has no CR, the first CR of `x ++ t` (if any) lies in `t`. -/
theorem firstCR_append_ge {x t : B} {i : Nat} (h : firstCR x = none) (hi : firstCR (x ++ t) = some i) :
    x.length ≤ i := by
  rw [firstCR_append_crFree t ((firstCR_none_iff x).mp h)] at hi
  obtain ⟨j, -, rfl⟩ := Option.map_eq_some_iff.mp hi
  exact Nat.le_add_right ..

theorem firstCR_some {s : B} {i : Nat} (h : firstCR s = some i) :
    ∃ a r, s = a ++ CR :: r ∧ crFree a ∧ a.length = i := by
  induction s generalizing i with
  | nil => cases h
  | cons c cs ih =>
    by_cases hc : c = CR
    · subst hc
      cases h
      exact ⟨[], cs, rfl, crFree_nil, rfl⟩
    · rw [firstCR_cons_ne hc] at h
      obtain ⟨j, hj, rfl⟩ := Option.map_eq_some_iff.mp h
      obtain ⟨a, r, rfl, ha, rfl⟩ := ih hj
      exact ⟨c :: a, r, rfl, crFree_cons.mpr ⟨hc, ha⟩, rfl⟩

theorem firstCR_append_of_some {x : B} {i : Nat} (t : B) (h : firstCR x = some i) :
    firstCR (x ++ t) = some i := by
  obtain ⟨a, r, rfl, ha, rfl⟩ := firstCR_some h
  rw [List.append_assoc, List.cons_append]
  exact firstCR_append_cr _ ha

theorem firstCR_lt {s : B} {i : Nat} (h : firstCR s = some i) : i < s.length := by
  obtain ⟨a, r, rfl, -, rfl⟩ := firstCR_some h
  simp

/-- A CR found in a prefix is the first CR of the whole input. -/
theorem firstCR_of_take {x : B} {n i : Nat} (h : firstCR (x.take n) = some i) : firstCR x = some i := by
  have := firstCR_append_of_some (x.drop n) h
  rwa [List.take_append_drop] at this

/-! ## the header window -/

/-- The input is *frozen*: its first CR is followed by at least one more byte, or
107 bytes have been supplied without any CR. -/
def frozen (x : B) : Prop :=
  (∃ c, firstCR x = some c ∧ c + 1 < x.length) ∨ (firstCR x = none ∧ 107 ≤ x.length)

theorem windowLength_cr {x : B} {c : Nat} (h : firstCR x = some c) :
    windowLength x = some (min (c + 2) x.length) := by
  simp only [windowLength, h, CRLF, List.length_cons, List.length_nil]

theorem windowLength_long {x : B} (h : firstCR x = none) (hl : 107 ≤ x.length) : windowLength x = none := by
  simp [windowLength, h, MAX_LENGTH, hl]

theorem windowLength_short {x : B} (h : firstCR x = none) (hl : x.length < 107) :
    windowLength x = some x.length := by
  rw [windowLength, h]; exact if_neg (Nat.not_le.mpr hl)

/-- The window never reaches past the input. -/
theorem windowLength_le {x : B} {n : Nat} (h : windowLength x = some n) : n ≤ x.length := by
  cases hc : firstCR x with
  | some c => rw [windowLength_cr hc] at h; cases h; exact Nat.min_le_right ..
  | none =>
    by_cases hl : 107 ≤ x.length
    · rw [windowLength_long hc hl] at h; cases h
    · rw [windowLength_short hc (Nat.not_le.mp hl)] at h; cases h; exact Nat.le_refl _

theorem windowLength_frozen_cr {x : B} {c : Nat} (h : firstCR x = some c) (hc : c + 1 < x.length) :
    windowLength x = some (c + 2) := by
  rw [windowLength_cr h, Nat.min_eq_left hc]

/-- The window of an input whose first CR is its last byte is the whole input. -/
theorem windowLength_cr_last {x : B} {c : Nat} (h : firstCR x = some c) (hc : ¬ c + 1 < x.length) :
    windowLength x = some x.length := by
  rw [windowLength_cr h, Nat.min_eq_right (Nat.le_succ_of_le (Nat.not_lt.mp hc))]

/-- An unterminated input of less than 107 bytes is its own window. -/
theorem windowLength_self {x : B} (ht : terminated x = false) (hl : x.length < 107) :
    windowLength x = some x.length := by
  cases h : firstCR x with
  | none => exact windowLength_short h hl
  | some c => exact windowLength_cr_last h (by simpa [terminated, h] using ht)

/-- The window of `x ++ t` when `x` is CR-free and has at least 107 bytes: none, or longer than 107. -/
theorem windowLength_append_long {x t : B} (h : firstCR x = none) (hl : 107 ≤ x.length) :
    windowLength (x ++ t) = none ∨ ∃ n, windowLength (x ++ t) = some n ∧ 107 < n := by
  cases hcr : firstCR (x ++ t) with
  | none => exact .inl (windowLength_long hcr (Nat.le_trans hl (List.length_append ▸ Nat.le_add_right ..)))
  | some i =>
    have hi : 107 ≤ i := Nat.le_trans hl (firstCR_append_ge h hcr)
    exact .inr ⟨_, windowLength_cr hcr, Nat.lt_min.mpr
      ⟨Nat.lt_add_right 1 (Nat.lt_succ_of_le hi), Nat.lt_of_le_of_lt hi (firstCR_lt hcr)⟩⟩

/-- Appending bytes to a CR-frozen input changes neither the window length nor
the window. -/
theorem window_append_frozen {x : B} {c : Nat} (t : B) (h : firstCR x = some c) (hc : c + 1 < x.length) :
    windowLength (x ++ t) = some (c + 2) ∧ (x ++ t).take (c + 2) = x.take (c + 2) := by
  exact ⟨windowLength_frozen_cr (firstCR_append_of_some t h)
      (by rw [List.length_append]; exact Nat.lt_add_right _ hc),
    List.take_append_of_le_length hc⟩

/-- The window of a CR-frozen input: `a ++ [CR, b]` with `a` CR-free. -/
theorem window_shape {x : B} {c : Nat} (h : firstCR x = some c) (hc : c + 1 < x.length) :
    ∃ a b, crFree a ∧ a.length = c ∧ x.take (c + 2) = a ++ [CR, b] := by
  obtain ⟨a, r, rfl, ha, rfl⟩ := firstCR_some h
  cases r with
  | nil => rw [List.length_append] at hc; exact absurd hc (Nat.lt_irrefl _)
  | cons b r' =>
    refine ⟨a, b, ha, rfl, ?_⟩
    rw [show a ++ CR :: b :: r' = (a ++ [CR, b]) ++ r' from (List.append_assoc a [CR, b] r').symm]
    exact List.take_left' List.length_append

/-- The window of `line ++ rest` is `line` when `line` is a CR-free body, a CR and one more byte. -/
theorem window_line {body : B} (c : UInt8) (rest : B) (h : crFree body) :
    windowLength (body ++ [CR, c] ++ rest) = some (body ++ [CR, c]).length ∧
      (body ++ [CR, c] ++ rest).take (body ++ [CR, c]).length = body ++ [CR, c] := by
  have hl : (body ++ [CR, c]).length = body.length + 2 := List.length_append
  obtain ⟨hw, ht⟩ := window_append_frozen rest (firstCR_append_cr [c] h) (hl ▸ Nat.lt_succ_self _)
  rw [hl]
  exact ⟨hw, ht.trans (List.take_of_length_le (Nat.le_of_eq hl))⟩

/-- What the entry points hand to `parseHeader`: nothing after the byte that follows the first CR. -/
def IsWindow (w : B) : Prop := ∀ i, firstCR w = some i → w.length ≤ i + 2

theorem window_is_window {x : B} {n : Nat} (h : windowLength x = some n) : IsWindow (x.take n) := by
  intro i hi
  rw [windowLength_cr (firstCR_of_take hi)] at h
  cases h
  exact Nat.le_trans (List.length_take_le ..) (Nat.min_le_left ..)

/-! ## `terminated`, and headers that end in CR LF -/

theorem terminated_window {a : B} {b : UInt8} (ha : crFree a) : terminated (a ++ [CR, b]) = true := by
  simp [terminated, firstCR_append_cr [b] ha]

theorem terminated_of_crFree {p : B} (h : crFree p) : terminated p = false := by
  simp [terminated, (firstCR_none_iff p).mpr h]

/-- A CR-free text and one more byte: if that byte is a CR, nothing follows it. -/
theorem terminated_append_one {a : B} (h : crFree a) (c : UInt8) : terminated (a ++ [c]) = false := by
  by_cases hc : c = CR
  · subst hc; simp [terminated, firstCR_append_cr [] h]
  · exact terminated_of_crFree (crFree_append.mpr ⟨h, crFree_cons.mpr ⟨hc, crFree_nil⟩⟩)

theorem isSuffixOf_CRLF_iff (w : B) : CRLF.isSuffixOf w = true ↔ ∃ body, w = body ++ [CR, LF] := by
  -- the instance is named because the search for `LawfulBEq UInt8` tries the order classes first
  rw [@List.isSuffixOf_iff_suffix _ _ instLawfulBEq]
  constructor
  · rintro ⟨t, ht⟩; exact ⟨t, ht.symm⟩
  · rintro ⟨t, ht⟩; exact ⟨t, ht.symm⟩

theorem not_crlf_suffix (a : B) {c : UInt8} (hc : c ≠ LF) : CRLF.isSuffixOf (a ++ [CR, c]) = false := by
  apply Bool.eq_false_iff.mpr
  intro h
  obtain ⟨t, ht⟩ := (isSuffixOf_CRLF_iff _).mp h
  have := (List.append_inj' ht rfl).2
  simp only [List.cons.injEq, and_true] at this
  exact hc this.2

/-- An unterminated header does not end in CR LF. -/
theorem not_crlf_suffix_of_unterminated {w : B} (h : terminated w = false) :
    CRLF.isSuffixOf w = false := by
  apply Bool.eq_false_iff.mpr
  intro hs
  obtain ⟨t, rfl⟩ := (isSuffixOf_CRLF_iff w).mp hs
  cases hf : firstCR t with
  | none => rw [terminated_window ((firstCR_none_iff t).mp hf)] at h; cases h
  | some i =>
    have := firstCR_lt hf
    simp only [terminated, firstCR_append_of_some _ hf, List.length_append, List.length_cons,
      List.length_nil, decide_eq_false_iff_not] at h
    exact h (Nat.lt_succ_of_lt (Nat.succ_lt_succ this))

end V1
