import PppModel.Lemmas.SpecText
import PppModel.Lemmas.V1Header

/-!
# `parse_header` accepts exactly the well-formed v1 lines (on a window)
-/

namespace V1

/-- The IPv6 text predicate of the lemmas: the model of `Ipv6Addr::from_str` accepts the text,
and the text has no separator.  It is the RFC 4291 grammar (`C01.ip6Model_iff_text`). -/
def ip6Model (s : B) (a : Ip6) : Prop := StdNet.parseIpv6 s = some a ∧ sepFree s

/-! ## The splitter on a line -/

/-- How `splitN` starts on a line: the first part ends at the first space of the body or, if
there is none, at the CR. -/
theorem splitN_line_cases (n : Nat) {body : B} (hb : crFree body) :
    (sepFree body ∧ splitN (n + 2) (body ++ [CR, LF]) = [body, [LF]]) ∨
    ∃ p body', sepFree p ∧ crFree body' ∧ body = p ++ SP :: body' ∧
      splitN (n + 2) (body ++ [CR, LF]) = p :: splitN (n + 1) (body' ++ [CR, LF]) := by
  rcases splitOnce_cases body with ⟨hsf, -⟩ | ⟨p, c, r, hp, hc, rfl, -⟩
  · left
    refine ⟨hsf, ?_⟩
    rw [show body ++ [CR, LF] = body ++ CR :: [LF] from rfl, splitN_append n hsf isSep_CR,
      splitN_sepFree n (by unfold sepFree; decide)]
  · right
    obtain rfl : c = SP := ((isSep_iff c).mp hc).resolve_right (hb c (by simp))
    refine ⟨p, r, hp, (crFree_cons.mp (crFree_append.mp hb).2).2, rfl, ?_⟩
    rw [List.append_assoc, List.cons_append, splitN_append n hp isSep_SP]

/-- `splitN_joinSP` read backwards on a line, as long as the parts go on beyond the CR. -/
theorem joinSP_of_splitN (fs : List B) {k : Nat} {body g : B} {t : List B} (hb : crFree body)
    (ht : t ≠ []) (h : splitN (k + fs.length + 1) (body ++ [CR, LF]) = fs ++ g :: t) :
    (∀ f ∈ fs, sepFree f) ∧ ∃ body', crFree body' ∧ body = joinSP fs body' ∧
      splitN (k + 1) (body' ++ [CR, LF]) = g :: t := by
  induction fs generalizing body with
  | nil => exact ⟨fun _ hf => (nomatch hf), body, hb, rfl, h⟩
  | cons p fs ih =>
    rcases splitN_line_cases (k + fs.length) hb with ⟨-, hs⟩ | ⟨p', body', hp', hb', rfl, hs⟩
    · -- the parts would stop at `[LF]`
      have : [[LF]].length = (fs ++ g :: t).length := congrArg List.length (List.cons.inj (hs.symm.trans h)).2
      rw [List.length_append, List.length_cons] at this
      exact absurd this (Nat.ne_of_lt (Nat.lt_add_left _ (Nat.succ_lt_succ (List.length_pos_iff.mpr ht))))
    · obtain ⟨rfl, h'⟩ := List.cons.inj (hs.symm.trans h)
      obtain ⟨hfs, body'', hb'', rfl, hs'⟩ := ih hb' h'
      exact ⟨List.forall_mem_cons.mpr ⟨hp', hfs⟩, body'', hb'', rfl, hs'⟩

/-- **Inversion.** Seven parts come from six separators. -/
theorem splitN_seven {w p0 p1 p2 p3 p4 p5 p6 : B} (h : splitN 7 w = [p0, p1, p2, p3, p4, p5, p6]) :
    ∃ c0 c1 c2 c3 c4 c5 : UInt8,
      isSep c0 = true ∧ isSep c1 = true ∧ isSep c2 = true ∧ isSep c3 = true ∧ isSep c4 = true ∧
      isSep c5 = true ∧ sepFree p0 ∧ sepFree p1 ∧ sepFree p2 ∧ sepFree p3 ∧ sepFree p4 ∧ sepFree p5 ∧
      w = p0 ++ [c0] ++ p1 ++ [c1] ++ p2 ++ [c2] ++ p3 ++ [c3] ++ p4 ++ [c4] ++ p5 ++ [c5] ++ p6 := by
  obtain ⟨c0, r0, f0, s0, rfl, h1⟩ := splitN_two (n := 5) h
  obtain ⟨c1, r1, f1, s1, rfl, h2⟩ := splitN_two (n := 4) h1
  obtain ⟨c2, r2, f2, s2, rfl, h3⟩ := splitN_two (n := 3) h2
  obtain ⟨c3, r3, f3, s3, rfl, h4⟩ := splitN_two (n := 2) h3
  obtain ⟨c4, r4, f4, s4, rfl, h5⟩ := splitN_two (n := 1) h4
  obtain ⟨c5, r5, f5, s5, rfl, h6⟩ := splitN_two (n := 0) h5
  obtain rfl : r5 = p6 := List.singleton_inj.mp h6
  refine ⟨c0, c1, c2, c3, c4, c5, s0, s1, s2, s3, s4, s5, f0, f1, f2, f3, f4, f5, ?_⟩
  have step : ∀ (x p : B) (c : UInt8) (r : B), x ++ (p ++ c :: r) = x ++ p ++ [c] ++ r :=
    fun x p c r => by rw [← List.append_assoc, List.append_cons]
  rw [List.append_cons p0, step, step, step, step, step]

/-! ## Windows that end in CR LF, and well-formed lines, end in their only CR -/

/-- A window that ends in CR LF is a CR-free body followed by CR LF. -/
theorem window_body {w : B} (hw : IsWindow w) (hsuf : CRLF.isSuffixOf w = true) :
    ∃ body, crFree body ∧ w = body ++ [CR, LF] := by
  obtain ⟨body, rfl⟩ := (isSuffixOf_CRLF_iff w).mp hsuf
  refine ⟨body, (firstCR_none_iff body).mp ?_, rfl⟩
  cases hf : firstCR body with
  | none => rfl
  | some i =>
    -- a CR in the body would be the first CR of the window, with CR LF still to come
    have h1 := firstCR_lt hf
    have h2 := hw i (firstCR_append_of_some _ hf)
    rw [List.length_append] at h2
    exact absurd (Nat.le_of_add_le_add_right h2) (Nat.not_le.mpr h1)

/-- A well-formed line is a CR-free body followed by CR LF. -/
theorem line_shape {w : B} {addr : Addresses} (hl : Spec.V1.Line ip6Model w addr) :
    ∃ body, crFree body ∧ w = body ++ [CR, LF] := by
  cases hl with
  | unknown tail h1 h2 =>
    exact ⟨_, crFree_protoBody sepFree_PROXY sepFree_UNKNOWN h2, rfl⟩
  | tcp4 sa da sp dp a b p q hsa hda hsp hdp =>
    exact ⟨_, crFree_joinSP (sepFree_fields sepFree_PROXY sepFree_TCP4 (ipv4Text_sepFree hsa)
      (ipv4Text_sepFree hda) (portText_sepFree hsp)) (portText_sepFree hdp).crFree,
      (tcpLine_eq_joinSP ..).trans (joinSP_append ..).symm⟩
  | tcp6 sa da sp dp a b p q hsa hda hsp hdp =>
    exact ⟨_, crFree_joinSP (sepFree_fields sepFree_PROXY sepFree_TCP6 hsa.2 hda.2
      (portText_sepFree hsp)) (portText_sepFree hdp).crFree,
      (tcpLine_eq_joinSP ..).trans (joinSP_append ..).symm⟩

/-! ## Well-formed lines are accepted -/

/-- An address line of either family whose fields are all fine: `parseHeader_tcpLine_fields` with
no bad field. -/
theorem parseHeader_tcpLine_ok {α : Type} {f : B → Option α} {mk : α → α → UInt16 → UInt16 → Addresses}
    {K : B} (hK : ∀ w rest, afterProto w K rest = tcpBranch f mk w rest) (hKs : sepFree K)
    {sa da sp dp : B} {a b : α} {p q : UInt16} (hsa : sepFree sa) (hda : sepFree da)
    (hsp : sepFree sp) (hdp : sepFree dp) (ha : f sa = some a) (hb : f da = some b)
    (hp : parsePort sp = .ok p) (hq : parsePort dp = .ok q)
    (hlen : (Blame.tcpLine PROXY K sa da sp dp [CR, LF]).length ≤ 107) :
    parseHeader (Blame.tcpLine PROXY K sa da sp dp [CR, LF]) =
      .ok { header := Blame.tcpLine PROXY K sa da sp dp [CR, LF], addresses := mk a b p q } := by
  rw [parseHeader_tcpLine_fields hK hKs hsa hda hsp hdp hlen, ha, hb, hp, hq]
  exact finish_of _ _ ((isSuffixOf_CRLF_iff _).mpr ⟨_, rfl⟩)

theorem parseHeader_ok_of_line {w : B} {addr : Addresses} (hlen : w.length ≤ 107)
    (hl : Spec.V1.Line ip6Model w addr) : parseHeader w = .ok { header := w, addresses := addr } := by
  cases hl with
  | unknown tail h1 h2 =>
    obtain ⟨rest, -, h⟩ := parseHeader_protoLine (c := LF) sepFree_UNKNOWN h1 hlen
    exact h.trans (by rw [afterProto_unknown, if_pos ((isSuffixOf_CRLF_iff _).mpr ⟨_, rfl⟩)]; rfl)
  | tcp4 sa da sp dp a b p q hsa hda hsp hdp =>
    exact parseHeader_tcpLine_ok afterProto_tcp4 sepFree_TCP4 (ipv4Text_sepFree hsa) (ipv4Text_sepFree hda)
      (portText_sepFree hsp) (portText_sepFree hdp) ((StdNet.ipv4Text_iff_parse _ _).mp hsa)
      ((StdNet.ipv4Text_iff_parse _ _).mp hda) ((StdNet.portText_iff_parse _ _).mp hsp)
      ((StdNet.portText_iff_parse _ _).mp hdp) hlen
  | tcp6 sa da sp dp a b p q hsa hda hsp hdp =>
    exact parseHeader_tcpLine_ok afterProto_tcp6 sepFree_TCP6 hsa.2 hda.2
      (portText_sepFree hsp) (portText_sepFree hdp) hsa.1 hda.1
      ((StdNet.portText_iff_parse _ _).mp hsp) ((StdNet.portText_iff_parse _ _).mp hdp) hlen

/-! ## What an accepted header looks like -/

/-- A success of the address branch: no field was missing, the field parsers accepted all four,
and so did the final check. -/
theorem tcpBranch_ok {α : Type} {f : B → Option α} {mk : α → α → UInt16 → UInt16 → Addresses}
    {w : B} {rest : List B} {h : Header} (hok : tcpBranch f mk w rest = .ok h) :
    ∃ sa da sp dp rest' a b p q, takeFields rest (terminated w) = .ok (sa, da, sp, dp, rest') ∧
      f sa = some a ∧ f da = some b ∧ parsePort sp = .ok p ∧ parsePort dp = .ok q ∧
      finish w (mk a b p q) rest' = .ok h := by
  cases ht : takeFields rest (terminated w) with
  | error e => rw [tcpBranch_of_missing ht] at hok; cases hok
  | ok r =>
    obtain ⟨sa, da, sp, dp, rest'⟩ := r
    rw [tcpBranch_of_fields ht] at hok
    -- one `split` per field: a bad one would have been the verdict
    split at hok
    · cases hok
    rename_i a ha
    split at hok
    · cases hok
    rename_i b hb
    split at hok
    · cases hok
    rename_i p hp
    split at hok
    · cases hok
    rename_i q hq
    exact ⟨sa, da, sp, dp, rest', a, b, p, q, rfl, ha, hb, hp, hq, hok⟩

/-- Only the three protocols lead to a success. -/
theorem afterProto_ok {w proto : B} {rest : List B} {h : Header} (hok : afterProto w proto rest = .ok h) :
    (proto = TCP4 ∧ tcpBranch StdNet.parseIpv4 Addresses.newTcp4 w rest = .ok h) ∨
    (proto = TCP6 ∧ tcpBranch StdNet.parseIpv6 Addresses.newTcp6 w rest = .ok h) ∨
    (proto = UNKNOWN ∧ CRLF.isSuffixOf w = true ∧ h = { header := w, addresses := .unknown }) := by
  by_cases h4 : proto = TCP4
  · exact .inl ⟨h4, by rwa [h4, afterProto_tcp4] at hok⟩
  by_cases h6 : proto = TCP6
  · exact .inr (.inl ⟨h6, by rwa [h6, afterProto_tcp6] at hok⟩)
  by_cases hu : proto = UNKNOWN
  · rw [hu, afterProto_unknown] at hok
    rcases ite_eq_cases hok with ⟨hsuf, h⟩ | ⟨-, h⟩
    · exact .inr (.inr ⟨hu, hsuf, (Except.ok.inj h).symm⟩)
    · rcases ite_eq_cases h with ⟨-, h⟩ | ⟨-, h⟩ <;> cases h
  · rw [afterProto_other h4 h6 hu] at hok
    rcases ite_eq_cases hok with ⟨-, h⟩ | ⟨-, h⟩
    · cases h
    · rcases ite_eq_cases h with ⟨-, h⟩ | ⟨-, h⟩ <;> cases h

/-- A success went through `PROXY`, a protocol field and `afterProto`. -/
theorem parseHeader_ok_parts {w : B} {h : Header} (hok : parseHeader w = .ok h) :
    w.length ≤ 107 ∧ ∃ proto rest, splitN 7 w = PROXY :: proto :: rest ∧ afterProto w proto rest = .ok h := by
  have hlen : w.length ≤ 107 := by
    apply Nat.not_lt.mp; intro hl; rw [parseHeader_long hl] at hok; cases hok
  refine ⟨hlen, ?_⟩
  rcases splitN_cases 5 w with ⟨hsf, -⟩ | ⟨pfx, c, r, -, -, -, hs⟩
  · by_cases hne : w = []
    · rw [hne] at hok; cases hok
    · rw [parseHeader_sepFree hsf hne hlen] at hok; cases hok
  · obtain ⟨proto, rest, hr⟩ := List.exists_cons_of_ne_nil (splitN_ne_nil 5 r)
    rw [hr] at hs
    rw [parseHeader_of_parts hlen hs] at hok
    rcases ite_eq_cases hok with ⟨hp, h⟩ | ⟨-, h⟩
    · exact ⟨proto, rest, hp ▸ hs, h⟩
    · cases h

/-- An accepted address line of either family: on a window, the parts are `PROXY`, the
protocol, four fields that the field parsers accept, and `"\n"`; every separator but the last
is a single space. -/
theorem tcpBranch_ok_line {α : Type} {f : B → Option α} {mk : α → α → UInt16 → UInt16 → Addresses}
    {w K : B} {rest : List B} {h : Header} (hw : IsWindow w) (hs : splitN 7 w = PROXY :: K :: rest)
    (hok : tcpBranch f mk w rest = .ok h) :
    ∃ sa da sp dp a b p q, f sa = some a ∧ f da = some b ∧ parsePort sp = .ok p ∧ parsePort dp = .ok q ∧
      sepFree sa ∧ sepFree da ∧ w = joinSP [PROXY, K, sa, da, sp] (dp ++ [CR, LF]) ∧
      h = { header := w, addresses := mk a b p q } := by
  obtain ⟨sa, da, sp, dp, rest', a, b, p, q, htf, ha, hb, hp, hq, hfin⟩ := tcpBranch_ok hok
  obtain ⟨⟨tl, rfl⟩, hsuf, rfl⟩ := finish_ok hfin
  rw [takeFields_ok_cons htf] at hs
  obtain ⟨body, hb', rfl⟩ := window_body hw hsuf
  obtain ⟨hfs, body', hb'', rfl, hs'⟩ :=
    joinSP_of_splitN [PROXY, K, sa, da, sp] (k := 1) hb' (List.cons_ne_nil _ _) hs
  refine ⟨sa, da, sp, dp, a, b, p, q, ha, hb, hp, hq, hfs sa (by simp), hfs da (by simp), ?_, rfl⟩
  rcases splitN_line_cases 0 hb'' with ⟨-, h2⟩ | ⟨x, body'', -, -, rfl, h2⟩
  · rw [h2] at hs'
    rw [(List.cons.inj hs').1, joinSP_append]
  · -- a seventh field: the last part would be longer than `"\n"`
    rw [h2] at hs'
    have := congrArg List.length (List.cons.inj (List.cons.inj hs').2).1
    simp at this

/-- The shape of an accepted `UNKNOWN` line. -/
theorem unknown_line_shape {w : B} {rest : List B} (hw : IsWindow w)
    (hs : splitN 7 w = PROXY :: UNKNOWN :: rest) (hsuf : CRLF.isSuffixOf w = true) :
    ∃ tail, (tail = [] ∨ tail.head? = some SP) ∧ crFree tail ∧
      w = PROXY ++ [SP] ++ UNKNOWN ++ tail ++ [CR, LF] := by
  obtain ⟨body, hb, rfl⟩ := window_body hw hsuf
  rcases splitN_line_cases 5 hb with ⟨-, h1⟩ | ⟨p, body', -, hb', rfl, h1⟩
  · rw [h1] at hs
    exact absurd (List.cons.inj (List.cons.inj hs).2).1 (by decide)
  · rw [h1] at hs
    obtain ⟨rfl, hs1⟩ := List.cons.inj hs
    rcases splitN_line_cases 4 hb' with ⟨-, h2⟩ | ⟨q, tail, -, ht, rfl, h2⟩
    · rw [h2] at hs1
      obtain ⟨rfl, -⟩ := List.cons.inj hs1
      exact ⟨[], .inl rfl, crFree_nil, rfl⟩
    · rw [h2] at hs1
      obtain ⟨rfl, -⟩ := List.cons.inj hs1
      exact ⟨SP :: tail, .inr rfl, crFree_cons.mpr ⟨by decide, ht⟩, rfl⟩

/-! ## Accepted headers are well-formed lines -/

theorem line_of_parseHeader_ok {w : B} (hw : IsWindow w) {h : Header} (hok : parseHeader w = .ok h) :
    h.header = w ∧ w.length ≤ 107 ∧ Spec.V1.Line ip6Model w h.addresses := by
  obtain ⟨hlen, proto, rest, hs, hap⟩ := parseHeader_ok_parts hok
  rcases afterProto_ok hap with ⟨rfl, ht⟩ | ⟨rfl, ht⟩ | ⟨rfl, hsuf, rfl⟩
  · obtain ⟨sa, da, sp, dp, a, b, p, q, ha, hb, hp, hq, -, -, e, rfl⟩ := tcpBranch_ok_line hw hs ht
    refine ⟨rfl, hlen, ?_⟩
    rw [e, ← tcpLine_eq_joinSP]
    exact Spec.V1.Line.tcp4 sa da sp dp a b p q ((StdNet.ipv4Text_iff_parse _ _).mpr ha) ((StdNet.ipv4Text_iff_parse _ _).mpr hb)
      ((StdNet.portText_iff_parse _ _).mpr hp) ((StdNet.portText_iff_parse _ _).mpr hq)
  · obtain ⟨sa, da, sp, dp, a, b, p, q, ha, hb, hp, hq, fa, fb, e, rfl⟩ := tcpBranch_ok_line hw hs ht
    refine ⟨rfl, hlen, ?_⟩
    rw [e, ← tcpLine_eq_joinSP]
    exact Spec.V1.Line.tcp6 sa da sp dp a b p q ⟨ha, fa⟩ ⟨hb, fb⟩
      ((StdNet.portText_iff_parse _ _).mpr hp) ((StdNet.portText_iff_parse _ _).mpr hq)
  · obtain ⟨tail, h1, h2, e⟩ := unknown_line_shape hw hs hsuf
    refine ⟨rfl, hlen, ?_⟩
    rw [e]
    exact Spec.V1.Line.unknown tail h1 h2

/-- **Main theorem.** On a window, `parse_header` accepts exactly the well-formed lines of at
most 107 bytes and reports exactly the line and the addresses it denotes. -/
theorem parseHeader_ok_iff (w : B) (hw : IsWindow w) (h : Header) :
    parseHeader w = .ok h ↔
      h.header = w ∧ w.length ≤ 107 ∧ Spec.V1.Line ip6Model w h.addresses := by
  constructor
  · exact line_of_parseHeader_ok hw
  · rintro ⟨h1, h2, h3⟩
    cases h with
    | mk hd ad =>
      simp only at h1 h3
      subst h1
      exact parseHeader_ok_of_line h2 h3

end V1
