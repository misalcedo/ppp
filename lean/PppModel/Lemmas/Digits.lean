import PppModel.Std.Ipv4

/-!
# Digits in any radix: the loop of `read_number`, and printing

`readNumber_iff` says what `StdNet.readNumber` accepts in terms of the run of digits consumed;
`readOctet` (radix 10) and `readHex16` (radix 16) are instances. The `readGivenChar_*` and
`readSeparator_*` lemmas say what the two small readers around it do.

`Prints b digit p` says that `p` prints in radix `b`. That the output is non-empty, consists of digits,
has the number as its value and a bounded length is proved once from it, along `div_induct`;
`StdInt.dec` and `StdNet.hexLower` are the instances.
-/

theorem head?_append_ne_nil {α : Type} {l l' : List α} (h : l ≠ []) : (l ++ l').head? = l.head? := by
  cases l with
  | nil => exact absurd rfl h
  | cons a t => rfl

namespace StdNet

/-- A digit of the given radix. -/
def IsDigit (radix : Nat) (c : UInt8) : Prop := digitVal radix c ≠ none

/-- Its value (0 for other bytes). -/
def dval (radix : Nat) (c : UInt8) : Nat := (digitVal radix c).getD 0

/-- Left-to-right value with an accumulator: what the digit loop computes. -/
def foldDigits (radix : Nat) : B → Nat → Nat
  | [], acc => acc
  | c :: cs, acc => foldDigits radix cs (acc * radix + dval radix c)

/-- The input that stops a digit loop of the given radix: empty, or the next byte is not a digit. -/
def Stops (radix : Nat) (s : B) : Prop := ∀ c ∈ s.head?, digitVal radix c = none

theorem digitVal_of_isDigit {radix : Nat} {c : UInt8} (h : IsDigit radix c) :
    digitVal radix c = some (dval radix c) := by
  unfold IsDigit at h
  unfold dval
  cases hd : digitVal radix c with
  | none => exact absurd hd h
  | some d => rfl

theorem foldDigits_append (radix : Nat) (x y : B) (acc : Nat) :
    foldDigits radix (x ++ y) acc = foldDigits radix y (foldDigits radix x acc) := by
  induction x generalizing acc with
  | nil => rfl
  | cons c cs ih => exact ih _

theorem stops_nil (radix : Nat) : Stops radix [] := by simp [Stops]

theorem stops_cons {radix : Nat} {c : UInt8} (h : ¬ IsDigit radix c) (s : B) : Stops radix (c :: s) := by
  simpa [Stops] using Decidable.not_not.mp h

theorem stops_iff {radix : Nat} {s : B} :
    Stops radix s ↔ s = [] ∨ ∃ c r, s = c :: r ∧ ¬ IsDigit radix c := by
  cases s with
  | nil => simp [Stops]
  | cons c r => simp [Stops, IsDigit]

theorem not_isDigit_colon (radix : Nat) : ¬ IsDigit radix 0x3A := by
  simp [IsDigit, digitVal]

theorem readDigits_stops {radix m : Nat} {s : B} (h : Stops radix s) (acc cnt : Nat) :
    readDigits radix m s acc cnt = some (acc, cnt, s) := by
  cases s with
  | nil => rfl
  | cons c cs =>
    have : digitVal radix c = none := h c (by simp)
    simp [readDigits, this]

theorem readDigits_append {radix m : Nat} {ds : B} (hds : ∀ c ∈ ds, IsDigit radix c) {rest : B}
    (hrest : Stops radix rest) {acc cnt : Nat} (hcnt : cnt + ds.length ≤ m) :
    readDigits radix m (ds ++ rest) acc cnt = some (foldDigits radix ds acc, cnt + ds.length, rest) := by
  induction ds generalizing acc cnt with
  | nil => exact readDigits_stops hrest acc cnt
  | cons c cs ih =>
    rw [List.length_cons, ← Nat.add_assoc, Nat.add_right_comm] at hcnt
    simp only [List.cons_append, readDigits, digitVal_of_isDigit (hds c (List.mem_cons_self ..))]
    rw [if_neg (Nat.not_lt.mpr (Nat.le_trans (Nat.le_add_right _ _) hcnt)),
      ih (fun x hx => hds x (List.mem_cons_of_mem _ hx)) hcnt]
    simp only [foldDigits, List.length_cons, Nat.add_assoc, Nat.add_comm 1]

theorem readDigits_some {radix m : Nat} {s : B} {acc cnt v cnt' : Nat} {rest : B}
    (h : readDigits radix m s acc cnt = some (v, cnt', rest)) (hcnt : cnt ≤ m) :
    ∃ ds, s = ds ++ rest ∧ (∀ c ∈ ds, IsDigit radix c) ∧ Stops radix rest ∧
      cnt' = cnt + ds.length ∧ cnt' ≤ m ∧ v = foldDigits radix ds acc := by
  revert h hcnt
  fun_induction readDigits radix m s acc cnt
  case case1 =>
    rintro ⟨⟩ hcnt
    exact ⟨[], rfl, List.forall_mem_nil _, stops_nil _, rfl, hcnt, rfl⟩
  case case2 c cs _ _ hc =>
    rintro ⟨⟩ hcnt
    exact ⟨[], rfl, List.forall_mem_nil _, stops_cons (· hc) cs, rfl, hcnt, rfl⟩
  case case3 => nofun
  case case4 c cs acc cnt d hc hle ih =>
    intro h _
    obtain ⟨ds, rfl, h2, h3, rfl, h5, rfl⟩ := ih h (Nat.not_lt.mp hle)
    have hd : IsDigit radix c := by rw [IsDigit, hc]; nofun
    exact ⟨c :: ds, rfl, List.forall_mem_cons.mpr ⟨hd, h2⟩, h3,
      by rw [List.length_cons, Nat.add_assoc, Nat.add_comm 1], h5, by rw [foldDigits, dval, hc]; rfl⟩

/-- What follows the run of digits at the start of an input is determined by the input: both
decompositions are what the digit loop returns. -/
theorem digits_run_unique {radix : Nat} {ds ds' rest rest' : B} (h : ds ++ rest = ds' ++ rest')
    (hds : ∀ c ∈ ds, IsDigit radix c) (hr : Stops radix rest)
    (hds' : ∀ c ∈ ds', IsDigit radix c) (hr' : Stops radix rest') : rest = rest' := by
  have hle : ∀ x y : B, 0 + x.length ≤ (x ++ y).length := fun x y => by
    rw [List.length_append, Nat.zero_add]; exact Nat.le_add_right _ _
  have h1 := readDigits_append (m := (ds ++ rest).length) hds hr (acc := 0) (hle ds rest)
  have h2 := readDigits_append (m := (ds ++ rest).length) hds' hr' (acc := 0) (h ▸ hle ds' rest')
  rw [← h, h1] at h2
  exact (Prod.mk.inj (Prod.mk.inj (Option.some.inj h2)).2).2

theorem readNumber_eq_some {radix m : Nat} {z : Bool} {bound : Nat} {s : B} {v : Nat} {rest : B} :
    readNumber radix m z bound s = some (v, rest) ↔
      ∃ cnt, readDigits radix m s 0 0 = some (v, cnt, rest) ∧ cnt ≠ 0 ∧
        (z = false → s.head? = some 0x30 → cnt ≤ 1) ∧ v < bound := by
  unfold readNumber
  cases readDigits radix m s 0 0 with
  | none => simp
  | some r =>
    obtain ⟨v', cnt, rest'⟩ := r
    simp only [Option.ite_none_left_eq_some, Option.ite_none_right_eq_some, Option.some.injEq, Prod.mk.injEq,
      beq_iff_eq, Bool.and_eq_true, Bool.not_eq_true', decide_eq_true_eq]
    constructor
    · rintro ⟨h0, hz, hlt, rfl, rfl⟩
      exact ⟨cnt, ⟨rfl, rfl, rfl⟩, h0, fun h1 h2 => Nat.le_of_not_lt fun h3 => hz ⟨⟨h1, h2⟩, h3⟩, hlt⟩
    · rintro ⟨_, ⟨rfl, rfl, rfl⟩, h0, hz, hlt⟩
      exact ⟨h0, fun ⟨⟨h1, h2⟩, h3⟩ => Nat.not_le_of_lt h3 (hz h1 h2), hlt, rfl, rfl⟩

/-- `read_number`: a non-empty run of at most `m` digits, stopped by `rest`, without a leading zero
other than the single digit `0` unless zero prefixes are allowed, whose value is below `bound`. -/
theorem readNumber_iff {radix m : Nat} {z : Bool} {bound : Nat} {s : B} {v : Nat} {rest : B} :
    readNumber radix m z bound s = some (v, rest) ↔
      ∃ ds, s = ds ++ rest ∧ ds ≠ [] ∧ ds.length ≤ m ∧ (∀ c ∈ ds, IsDigit radix c) ∧ Stops radix rest ∧
        (z = false → ds.head? = some 0x30 → ds = [0x30]) ∧ foldDigits radix ds 0 = v ∧ v < bound := by
  rw [readNumber_eq_some]
  constructor
  · rintro ⟨_, hrd, h0, hz, hlt⟩
    obtain ⟨ds, rfl, h2, h3, rfl, h5, rfl⟩ := readDigits_some hrd (Nat.zero_le _)
    rw [Nat.zero_add] at h0 hz h5
    have hne : ds ≠ [] := fun h => h0 (by rw [h]; rfl)
    rw [head?_append_ne_nil hne] at hz
    refine ⟨ds, rfl, hne, h5, h2, h3, fun hz' hd => ?_, rfl, hlt⟩
    have hl := hz hz' hd
    cases ds with
    | nil => exact absurd rfl hne
    | cons c t =>
      rw [Option.some.inj hd, List.eq_nil_of_length_eq_zero (Nat.le_zero.mp (Nat.le_of_succ_le_succ hl))]
  · rintro ⟨ds, rfl, hne, hm, hds, hst, hz, rfl, hlt⟩
    refine ⟨ds.length, ?_, fun h => hne (List.eq_nil_of_length_eq_zero h), fun hz' hd => ?_, hlt⟩
    · rw [readDigits_append hds hst (by omega), Nat.zero_add]
    · rw [head?_append_ne_nil hne] at hd
      rw [hz hz' hd]
      exact Nat.le_refl 1

theorem readNumber_stops {radix m : Nat} {z : Bool} {bound : Nat} {s : B} (h : Stops radix s) :
    readNumber radix m z bound s = none := by
  simp [readNumber, readDigits_stops h]

/-! ## `read_given_char`, `read_separator` -/

theorem readGivenChar_eq_some_iff {c : UInt8} {s r : B} : readGivenChar c s = some r ↔ s = c :: r := by
  cases s with
  | nil => simp [readGivenChar]
  | cons d t =>
    simp only [readGivenChar, Option.ite_none_right_eq_some, beq_iff_eq, Option.some.injEq, List.cons.injEq]

theorem readSeparator_zero {α : Type} (sep : UInt8) (inner : B → Option (α × B)) (s : B) :
    readSeparator sep 0 inner s = inner s := by
  simp [readSeparator]

theorem readSeparator_succ_cons {α : Type} (sep : UInt8) (i : Nat) (inner : B → Option (α × B)) (s : B) :
    readSeparator sep (i + 1) inner (sep :: s) = inner s := by
  simp [readSeparator, readGivenChar]

theorem readSeparator_succ_some {α : Type} {sep : UInt8} {i : Nat} {inner : B → Option (α × B)} {s : B}
    {r : α × B} (h : readSeparator sep (i + 1) inner s = some r) :
    ∃ s', s = sep :: s' ∧ inner s' = some r := by
  unfold readSeparator at h
  rw [if_pos (by omega)] at h
  split at h
  · cases h
  · rename_i s' hs'
    exact ⟨s', readGivenChar_eq_some_iff.mp hs', h⟩

/-! ## Printing in a radix -/

/-- Induction along repeated division by the radix. -/
theorem div_induct (b : Nat) (hb : 1 < b) (motive : Nat → Prop)
    (base : ∀ n, n < b → motive n) (step : ∀ n, ¬ n < b → motive (n / b) → motive n) :
    ∀ n, motive n := by
  intro n
  induction n using Nat.strongRecOn with
  | _ n ih =>
    by_cases h : n < b
    · exact base n h
    · exact step n h (ih _ (Nat.div_lt_self (by omega) hb))

/-- `p` prints in radix `b`, most significant digit first, writing `digit d` for the digit `d`. -/
structure Prints (b : Nat) (digit : Nat → UInt8) (p : Nat → B) : Prop where
  radix : 1 < b
  lt : ∀ {n}, n < b → p n = [digit n]
  ge : ∀ {n}, ¬ n < b → p n = p (n / b) ++ [digit (n % b)]
  digitVal : ∀ {d}, d < b → digitVal b (digit d) = some d

namespace Prints

variable {b : Nat} {digit : Nat → UInt8} {p : Nat → B} (h : Prints b digit p)
include h

theorem ne_nil (n : Nat) : p n ≠ [] := by
  by_cases hn : n < b
  · rw [h.lt hn]; exact List.cons_ne_nil _ _
  · rw [h.ge hn]; exact List.append_ne_nil_of_right_ne_nil _ (List.cons_ne_nil _ _)

theorem isDigit (n : Nat) : ∀ c ∈ p n, IsDigit b c := by
  have hd : ∀ d, d < b → IsDigit b (digit d) := fun d hd => by rw [IsDigit, h.digitVal hd]; nofun
  induction n using div_induct b h.radix with
  | base n hn => rw [h.lt hn]; exact List.forall_mem_singleton.mpr (hd n hn)
  | step n hn ih =>
    rw [h.ge hn]
    exact List.forall_mem_append.mpr
      ⟨ih, List.forall_mem_singleton.mpr (hd _ (Nat.mod_lt n (Nat.lt_trans Nat.zero_lt_one h.radix)))⟩

theorem foldDigits (n : Nat) : foldDigits b (p n) 0 = n := by
  have hd : ∀ d, d < b → dval b (digit d) = d := fun d hd => by rw [dval, h.digitVal hd]; rfl
  induction n using div_induct b h.radix with
  | base n hn => rw [h.lt hn, StdNet.foldDigits, StdNet.foldDigits, hd n hn, Nat.zero_mul, Nat.zero_add]
  | step n hn ih =>
    rw [h.ge hn, foldDigits_append, ih, StdNet.foldDigits, StdNet.foldDigits,
      hd _ (Nat.mod_lt n (Nat.lt_trans Nat.zero_lt_one h.radix)), Nat.mul_comm, Nat.div_add_mod]

theorem length_le (k : Nat) : ∀ n, n < b ^ (k + 1) → (p n).length ≤ k + 1 := by
  induction k with
  | zero => intro n hn; rw [h.lt (by simpa using hn)]; exact Nat.le_refl 1
  | succ k ih =>
    intro n hn
    by_cases hb : n < b
    · rw [h.lt hb]; exact Nat.le_add_left 1 _
    · rw [h.ge hb, List.length_append]
      exact Nat.succ_le_succ (ih _ (Nat.div_lt_of_lt_mul (by rwa [Nat.pow_succ, Nat.mul_comm] at hn)))

end Prints

end StdNet
