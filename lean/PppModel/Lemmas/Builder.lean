import PppModel.Spec.Builder
import PppModel.Lemmas.V2

/-!
# Writer and builder

Five levels: chunk list → payload → payload list → call → call history. Each level has one exact
characterisation of when it succeeds and what it then appends: `writeChunksE_ok_iff`,
`writeTo_ok_iff_enc`, `writeMany_some_iff`, `step_spec`, `runFrom_spec`, and for a whole run
`run_shape` / `run_exact`. The writer refuses a write only when the buffer already holds more than
`writerLimit = 65551` bytes *at the start of a non-empty chunk*, so success depends on chunk
lengths alone: from the payload list upwards the guard is `manyOk` of the flattened payload list
(`opOk_iff`, `opsOk_iff`).
-/

namespace V2
open Spec.Builder

/-! ## encodings: model chunks vs specification -/

theorem beBytes_eq_intBE (w v : Nat) : beBytes w v = intBE w v := by
  induction w with
  | zero => rfl
  | succ w ih => rw [beBytes, intBE, ih, UInt8.ofNat_mod_size']

theorem intBE_length (w v : Nat) : (intBE w v).length = w := by
  induction w with
  | zero => rfl
  | succ w ih => rw [intBE, List.length_cons, ih]

theorem typeCode_eq (t : TlvType) : t.code = typeCode t := by cases t <;> rfl

theorem octets_eq (a : Ip4) : a.octets = [a.a, a.b, a.c, a.d] := rfl

theorem chunks_flatten_addr (a : Addresses) : a.chunks.flatten = Spec.V2.addrBytes a := by
  cases a with
  | unspec => rfl
  | ipv4 a => rfl
  | ipv6 a =>
    simp only [Addresses.chunks, Spec.V2.addrBytes, List.flatten_cons, List.flatten_nil, List.append_nil,
      List.append_assoc]
    rfl
  | unix a => simp only [Addresses.chunks, Spec.V2.addrBytes, List.flatten_cons, List.flatten_nil, List.append_nil]

/-- The model refuses on `n > 65535`, the specification accepts on `n ≤ 65535`. -/
theorem map_flatten_guard {cs : List B} {e : B} (n : Nat) (h : cs.flatten = e) :
    (if n > 65535 then none else some cs).map List.flatten = if n ≤ 65535 then some e else none := by
  by_cases hn : n ≤ 65535
  · rw [if_neg (Nat.not_lt.mpr hn), if_pos hn, ← h]; rfl
  · rw [if_pos (Nat.not_le.mp hn), if_neg hn]; rfl

/-- The chunks of a payload concatenate to its specified encoding, and a payload
is refused up front exactly when the specification refuses it. -/
theorem chunks_spec (p : Payload) : p.chunks.map List.flatten = enc p := by
  cases p with
  | int w v => exact congrArg some ((List.append_nil _).trans (beBytes_eq_intBE w v))
  | slice bs => exact map_flatten_guard _ (List.append_nil bs)
  | addresses a => exact congrArg some (chunks_flatten_addr a)
  | tlv k v => exact map_flatten_guard _ (congrArg (k :: _ :: _ :: ·) (List.append_nil v))
  | pair k v => exact map_flatten_guard _ (congrArg (k :: _ :: _ :: ·) (List.append_nil v))
  | tlvSection bs => exact congrArg some (List.append_nil bs)
  | type t => exact congrArg (some [·]) (typeCode_eq t)

theorem enc_of_chunks {p : Payload} {cs : List B} (h : p.chunks = some cs) : enc p = some cs.flatten := by
  rw [← chunks_spec, h]; rfl

theorem chunks_of_enc {p : Payload} {e : B} (h : enc p = some e) : ∃ cs, p.chunks = some cs ∧ cs.flatten = e :=
  Option.map_eq_some_iff.mp ((chunks_spec p).trans h)

/-- The size a payload reports is the length of what it writes. -/
theorem size_spec (p : Payload) (e : B) (h : enc p = some e) : p.size = e.length := by
  cases p with
  | int w v => cases h; exact (intBE_length w v).symm
  | addresses a => cases h; rw [addrBytes_length, ← size_eq_spec]; rfl
  | tlvSection bs => cases h; rfl
  | type t => cases h; rfl
  | slice bs => cases (Option.ite_none_right_eq_some.mp h).2; rfl
  | tlv k v => cases (Option.ite_none_right_eq_some.mp h).2; exact Nat.add_comm 3 v.length
  | pair k v => cases (Option.ite_none_right_eq_some.mp h).2; exact Nat.add_comm 3 v.length

/-! ## the specified encodings of payload lists -/

theorem encAll_cons_some {p : Payload} {ps : List Payload} {e : B} :
    encAll (p :: ps) = some e ↔ ∃ e1 e2, enc p = some e1 ∧ encAll ps = some e2 ∧ e = e1 ++ e2 := by
  rw [encAll]
  constructor
  · intro h
    split at h
    · exact ⟨_, _, ‹_›, ‹_›, (Option.some.inj h).symm⟩
    · cases h
  · rintro ⟨e1, e2, h1, h2, rfl⟩
    rw [h1, h2]

theorem encAll_append {ps qs : List Payload} {a b : B} (ha : encAll ps = some a) (hb : encAll qs = some b) :
    encAll (ps ++ qs) = some (a ++ b) := by
  induction ps generalizing a with
  | nil => cases ha; exact hb
  | cons p ps ih =>
    obtain ⟨e1, e2, h1, h2, rfl⟩ := encAll_cons_some.mp ha
    exact encAll_cons_some.mpr ⟨e1, _, h1, ih h2, List.append_assoc ..⟩

theorem encAll_some_all {ps : List Payload} {e : B} (h : encAll ps = some e) :
    ∀ p ∈ ps, ∃ ep, enc p = some ep := by
  induction ps generalizing e with
  | nil => intro p hp; cases hp
  | cons q qs ih =>
    obtain ⟨e1, e2, h1, h2, rfl⟩ := encAll_cons_some.mp h
    exact List.forall_mem_cons.mpr ⟨⟨e1, h1⟩, ih h2⟩

/-! ## `enc` within the 16-bit bound, and the body of short histories -/

theorem enc_slice {bs : B} (h : bs.length ≤ 65535) : enc (.slice bs) = some bs := if_pos h

theorem enc_tlv_of_le (t : Tlv) (h : t.value.length ≤ 65535) :
    enc (.tlv t.kind t.value) = some (Spec.Tlv.enc t) := if_pos h

theorem enc_pair_of_le (t : Tlv) (h : t.value.length ≤ 65535) :
    enc (.pair t.kind t.value) = some (Spec.Tlv.enc t) := if_pos h

theorem body_batch (ps : List Payload) : Spec.Builder.body [.writePayloads ps] = encAll ps := by
  rw [Spec.Builder.body, List.flatMap_singleton]; rfl

theorem body_one {p : Payload} {a : B} (hp : enc p = some a) : Spec.Builder.body [.writePayload p] = some a :=
  encAll_cons_some.mpr ⟨a, [], hp, rfl, (List.append_nil a).symm⟩

theorem body_two {p q : Payload} {a b : B} (hp : enc p = some a) (hq : enc q = some b) :
    Spec.Builder.body [.writePayload p, .writePayload q] = some (a ++ b) :=
  encAll_cons_some.mpr ⟨a, b, hp, body_one hq, rfl⟩

theorem body_write_batch {p : Payload} {ps : List Payload} {a b : B} (hp : enc p = some a)
    (hps : encAll ps = some b) : Spec.Builder.body [.writePayload p, .writePayloads ps] = some (a ++ b) := by
  rw [Spec.Builder.body, List.flatMap_cons, List.flatMap_singleton]
  exact encAll_cons_some.mpr ⟨a, b, hp, hps, rfl⟩

theorem lengthFrom_cons (acc : Option Nat) (op : Op) (ops : List Op) :
    lengthFrom acc (op :: ops) = lengthFrom (lengthFrom acc [op]) ops := rfl

/-- Calls other than `set_length` leave the explicit length alone. -/
theorem lengthFrom_eq_self {ops : List Op} (h : ∀ op ∈ ops, ∀ l, op ≠ .setLength l) (acc : Option Nat) :
    lengthFrom acc ops = acc := by
  induction ops generalizing acc with
  | nil => rfl
  | cons op ops ih =>
    rw [lengthFrom_cons, ih (fun o ho => h o (List.mem_cons_of_mem _ ho))]
    cases op with
    | setLength l => exact absurd rfl (h _ (List.mem_cons_self ..) l)
    | _ => rfl

theorem lengthFrom_map {α} (g : α → Op) (hg : ∀ a l, g a ≠ .setLength l) (xs : List α) (acc : Option Nat) :
    lengthFrom acc (xs.map g) = acc :=
  lengthFrom_eq_self (fun _ ho l => by obtain ⟨a, -, rfl⟩ := List.mem_map.mp ho; exact hg a l) acc

/-! ## the writer -/

/-- The guard is evaluated at the start of every non-empty chunk. -/
def guardOk (w : Writer) : List B → Prop
  | [] => True
  | c :: cs => (c = [] ∨ w.length ≤ writerLimit) ∧ guardOk (w ++ c) cs

/-- `write_all`, in one equation. -/
theorem writeAll_eq (w : Writer) (c : B) :
    Writer.writeAll w c = if c = [] ∨ w.length ≤ writerLimit then some (w ++ c) else none := by
  cases c with
  | nil => simp [Writer.writeAll]
  | cons a c =>
    by_cases hg : w.length ≤ writerLimit
    · simp [Writer.writeAll, Writer.write, hg, Nat.not_lt.mpr hg]
    · simp [Writer.writeAll, Writer.write, hg, Nat.not_le.mp hg]

/-- Exact success condition of a sequence of `write_all` calls. -/
theorem writeChunksE_ok_iff (w : Writer) (cs : List B) (w' : Writer) :
    Writer.writeChunksE w cs = .ok w' ↔ guardOk w cs ∧ w' = w ++ cs.flatten := by
  induction cs generalizing w with
  | nil => simp [Writer.writeChunksE, guardOk, eq_comm]
  | cons c cs ih =>
    simp only [Writer.writeChunksE, writeAll_eq, guardOk, List.flatten_cons]
    by_cases hg : c = [] ∨ w.length ≤ writerLimit
    · simp only [hg, if_true, ih, true_and, List.append_assoc]
    · simp [hg]

/-- What a failed sequence leaves behind, exactly: the chunks before the first
non-empty one at whose start the buffer was beyond the limit. -/
theorem writeChunksE_error (w : Writer) (cs : List B) (w' : Writer)
    (h : Writer.writeChunksE w cs = .error w') :
    ∃ k, k < cs.length ∧ w' = w ++ (cs.take k).flatten ∧ cs[k]! ≠ [] ∧ writerLimit < w'.length ∧
      guardOk w (cs.take k) := by
  induction cs generalizing w with
  | nil => cases h
  | cons c cs ih =>
    rw [Writer.writeChunksE, writeAll_eq] at h
    by_cases hg : c = [] ∨ w.length ≤ writerLimit
    · rw [if_pos hg] at h
      obtain ⟨k, hk, rfl, h3, h4, h5⟩ := ih _ h
      exact ⟨k + 1, Nat.succ_lt_succ hk, by rw [List.take_succ_cons, List.flatten_cons, List.append_assoc],
        by rwa [List.getElem!_cons_succ], h4, hg, h5⟩
    · rw [if_neg hg] at h
      cases h
      exact ⟨0, Nat.zero_lt_succ _, (List.append_nil _).symm, fun hc => hg (.inl hc),
        Nat.not_le.mp fun hl => hg (.inr hl), trivial⟩

/-- `write_to` is `write_all` of each chunk, for every kind of value: the single
`write` of a type code is one non-empty chunk. -/
theorem writeTo_eq (p : Payload) (w : Writer) :
    p.writeTo w = match p.chunks with
      | none => .error w
      | some cs => match Writer.writeChunksE w cs with
        | .error w' => .error w'
        | .ok w' => .ok (p.size, w') := by
  cases p with
  | type t =>
    simp only [Payload.writeTo, Payload.chunks, Writer.writeChunksE, Writer.writeAll, Writer.write]
    by_cases hg : w.length > writerLimit
    · rw [if_pos hg]; rfl
    · rw [if_neg hg]; rfl
  | _ => rfl

theorem writeTo_of_chunks {p : Payload} {cs : List B} (hc : p.chunks = some cs) (w : Writer) :
    p.writeTo w = match Writer.writeChunksE w cs with
      | .error w' => .error w'
      | .ok w' => .ok (cs.flatten.length, w') := by
  rw [writeTo_eq, hc, size_spec p _ (enc_of_chunks hc)]

/-- A refused value writes nothing. -/
theorem writeTo_refused (p : Payload) (w : Writer) (he : enc p = none) : p.writeTo w = .error w := by
  rw [← chunks_spec] at he
  rw [writeTo_eq]
  cases hc : p.chunks with
  | none => rfl
  | some cs => rw [hc] at he; cases he

/-! ## arithmetic success predicates -/

/-- chunk lengths a payload hands to the writer (`none` = refused up front) -/
def Payload.chunkLens (p : Payload) : Option (List Nat) := p.chunks.map (·.map List.length)

/-- the guard on a buffer of `n` bytes for successive chunks of the given lengths -/
def lensOk : Nat → List Nat → Prop
  | _, [] => True
  | n, l :: ls => (l = 0 ∨ n ≤ writerLimit) ∧ lensOk (n + l) ls

instance lensOk.instDecidable : (n : Nat) → (ls : List Nat) → Decidable (lensOk n ls)
  | _, [] => isTrue trivial
  | n, l :: ls =>
    have := lensOk.instDecidable (n + l) ls
    inferInstanceAs (Decidable ((l = 0 ∨ n ≤ writerLimit) ∧ lensOk (n + l) ls))

/-- `lensOk` on an optional list of lengths; `none` (refused up front) fails. -/
def lensOkOpt (n : Nat) : Option (List Nat) → Prop
  | none => False
  | some ls => lensOk n ls

instance lensOkOpt.instDecidable (n : Nat) : (o : Option (List Nat)) → Decidable (lensOkOpt n o)
  | none => isFalse (fun h => h)
  | some ls => inferInstanceAs (Decidable (lensOk n ls))

/-- one `write_to` succeeds on a buffer of `n` bytes -/
def Payload.okAt (p : Payload) (n : Nat) : Prop :=
  ∃ ls, p.chunkLens = some ls ∧ lensOk n ls ∧ (∀ t, p = .type t → n ≤ writerLimit)

/-- The `write` (rather than `write_all`) of a type code adds nothing to the
guard on its single one-byte chunk: `okAt` is the chunk guard alone. -/
theorem Payload.okAt_iff (p : Payload) (n : Nat) : p.okAt n ↔ lensOkOpt n p.chunkLens := by
  constructor
  · rintro ⟨ls, h1, h2, -⟩
    rw [h1]; exact h2
  · intro h
    cases hc : p.chunkLens with
    | none => rw [hc] at h; exact h.elim
    | some ls =>
      rw [hc] at h
      refine ⟨ls, hc, h, ?_⟩
      rintro t rfl
      cases hc
      exact h.1.resolve_left (Nat.succ_ne_zero 0)

instance Payload.okAt.instDecidable (p : Payload) (n : Nat) : Decidable (p.okAt n) :=
  decidable_of_iff _ (Payload.okAt_iff p n).symm

/-- total length of the chunks (0 if refused) -/
def Payload.encLen (p : Payload) : Nat := (p.chunkLens.getD []).sum

/-- successive payloads; the buffer grows by `encLen` -/
def manyOk : Nat → List Payload → Prop
  | _, [] => True
  | n, p :: ps => p.okAt n ∧ manyOk (n + p.encLen) ps

instance manyOk.instDecidable : (n : Nat) → (ps : List Payload) → Decidable (manyOk n ps)
  | _, [] => isTrue trivial
  | n, p :: ps =>
    have := manyOk.instDecidable (n + p.encLen) ps
    inferInstanceAs (Decidable (p.okAt n ∧ manyOk (n + p.encLen) ps))

/-- one builder call succeeds when the buffer (after `write_header`) holds `n` bytes -/
def opOk (n : Nat) : Op → Prop
  | .reserve _ => True
  | .setLength _ => True
  | .writePayload p => p.okAt n
  | .writePayloads ps => manyOk n ps
  | .writeTlv k v => (Payload.tlv k v).okAt n

instance opOk.instDecidable (n : Nat) : (op : Op) → Decidable (opOk n op)
  | .reserve _ => isTrue trivial
  | .setLength _ => isTrue trivial
  | .writePayload p => inferInstanceAs (Decidable (p.okAt n))
  | .writePayloads ps => inferInstanceAs (Decidable (manyOk n ps))
  | .writeTlv k v => inferInstanceAs (Decidable ((Payload.tlv k v).okAt n))

/-- bytes the call appends on success -/
def opLen : Op → Nat
  | .reserve _ => 0
  | .setLength _ => 0
  | .writePayload p => p.encLen
  | .writePayloads ps => (ps.map Payload.encLen).sum
  | .writeTlv k v => (Payload.tlv k v).encLen

/-- a whole call history from a buffer of `n` bytes -/
def opsOk : Nat → List Op → Prop
  | _, [] => True
  | n, op :: ops => opOk n op ∧ opsOk (n + opLen op) ops

instance opsOk.instDecidable : (n : Nat) → (ops : List Op) → Decidable (opsOk n ops)
  | _, [] => isTrue trivial
  | n, op :: ops =>
    have := opsOk.instDecidable (n + opLen op) ops
    inferInstanceAs (Decidable (opOk n op ∧ opsOk (n + opLen op) ops))

/-- bytes a whole history appends after the address block -/
def payloadLen (ops : List Op) : Nat := (ops.map opLen).sum

/-! ## lengths: `encLen`, `opLen`, `payloadLen` against the specified encodings -/

theorem chunkLens_of_chunks {p : Payload} {cs : List B} (h : p.chunks = some cs) :
    p.chunkLens = some (cs.map List.length) := by
  simp only [Payload.chunkLens, h, Option.map_some]

theorem encLen_of_enc {p : Payload} {e : B} (he : enc p = some e) : p.encLen = e.length := by
  obtain ⟨cs, hc, rfl⟩ := chunks_of_enc he
  simp only [Payload.encLen, chunkLens_of_chunks hc, Option.getD_some, List.length_flatten]

theorem encAll_len {ps : List Payload} {e : B} (he : encAll ps = some e) :
    (ps.map Payload.encLen).sum = e.length := by
  induction ps generalizing e with
  | nil => cases he; rfl
  | cons p ps ih =>
    obtain ⟨e1, e2, h1, h2, rfl⟩ := encAll_cons_some.mp he
    simp only [List.map_cons, List.sum_cons, List.length_append, encLen_of_enc h1, ih h2]

theorem opLen_eq_sum (op : Op) : opLen op = ((opPayloads op).map Payload.encLen).sum := by
  cases op with
  | writePayload p => exact (Nat.add_zero _).symm
  | writeTlv k v => exact (Nat.add_zero _).symm
  | _ => rfl

theorem payloadLen_nil : payloadLen [] = 0 := rfl

theorem payloadLen_cons (op : Op) (ops : List Op) :
    payloadLen (op :: ops) = opLen op + payloadLen ops := by
  simp only [payloadLen, List.map_cons, List.sum_cons]

theorem payloadLen_eq_sum (ops : List Op) :
    payloadLen ops = ((ops.flatMap opPayloads).map Payload.encLen).sum := by
  induction ops with
  | nil => rfl
  | cons op ops ih =>
    simp only [payloadLen_cons, List.flatMap_cons, List.map_append, List.sum_append, ih, opLen_eq_sum]

/-- `payloadLen` is the length of the specified body, whenever that exists. -/
theorem payloadLen_of_body {ops : List Op} {e : B} (he : Spec.Builder.body ops = some e) :
    payloadLen ops = e.length := by
  rw [payloadLen_eq_sum, encAll_len he]

/-! ## the guard is arithmetic, and at every level it is `manyOk` of the payloads -/

theorem guardOk_iff_lensOk (w : Writer) (cs : List B) :
    guardOk w cs ↔ lensOk w.length (cs.map List.length) := by
  induction cs generalizing w with
  | nil => simp only [guardOk, List.map_nil, lensOk]
  | cons c cs ih =>
    simp only [guardOk, List.map_cons, lensOk, ih (w ++ c), List.length_append,
      List.length_eq_zero_iff]

theorem okAt_of_chunks {p : Payload} {cs : List B} (hc : p.chunks = some cs) (w : Writer) :
    p.okAt w.length ↔ guardOk w cs := by
  rw [Payload.okAt_iff, chunkLens_of_chunks hc, guardOk_iff_lensOk]; rfl

/-- A payload that is written is encodable. -/
theorem okAt_enc {p : Payload} {n : Nat} (h : p.okAt n) : ∃ e, enc p = some e := by
  obtain ⟨ls, h1, -, -⟩ := h
  cases hc : p.chunks with
  | none => rw [Payload.chunkLens, hc] at h1; cases h1
  | some cs => exact ⟨_, enc_of_chunks hc⟩

theorem manyOk_append {n : Nat} {ps qs : List Payload} :
    manyOk n (ps ++ qs) ↔ manyOk n ps ∧ manyOk (n + (ps.map Payload.encLen).sum) qs := by
  induction ps generalizing n with
  | nil => exact (and_iff_right trivial).symm
  | cons p ps ih => simp only [List.cons_append, manyOk, ih, List.map_cons, List.sum_cons, and_assoc, Nat.add_assoc]

theorem opOk_iff (n : Nat) (op : Op) : opOk n op ↔ manyOk n (opPayloads op) := by
  cases op with
  | writePayload p => exact (and_iff_left trivial).symm
  | writeTlv k v => exact (and_iff_left trivial).symm
  | _ => exact Iff.rfl

theorem opsOk_iff (n : Nat) (ops : List Op) : opsOk n ops ↔ manyOk n (ops.flatMap opPayloads) := by
  induction ops generalizing n with
  | nil => exact Iff.rfl
  | cons op ops ih => simp only [opsOk, List.flatMap_cons, manyOk_append, opOk_iff, ih, opLen_eq_sum]

theorem manyOk_encAll {ps : List Payload} {n : Nat} (h : manyOk n ps) : ∃ e, encAll ps = some e := by
  induction ps generalizing n with
  | nil => exact ⟨[], rfl⟩
  | cons p ps ih =>
    obtain ⟨e1, he1⟩ := okAt_enc h.1
    obtain ⟨e2, he2⟩ := ih h.2
    exact ⟨_, encAll_cons_some.mpr ⟨e1, e2, he1, he2, rfl⟩⟩

/-- A history all of whose writes are accepted has a specified body. -/
theorem opsOk_body {ops : List Op} {n : Nat} (h : opsOk n ops) : ∃ e, Spec.Builder.body ops = some e :=
  manyOk_encAll ((opsOk_iff n ops).mp h)

/-! ## the guard is monotone, and only ever bites beyond a full-size header -/

theorem lensOk_mono {m n : Nat} (hmn : m ≤ n) {ls : List Nat} (h : lensOk n ls) : lensOk m ls := by
  induction ls generalizing m n with
  | nil => trivial
  | cons l ls ih => exact ⟨h.1.imp id (Nat.le_trans hmn), ih (Nat.add_le_add_right hmn l) h.2⟩

theorem okAt_mono {m n : Nat} (hmn : m ≤ n) {p : Payload} (h : p.okAt n) : p.okAt m := by
  obtain ⟨ls, h1, h2, h3⟩ := h
  exact ⟨ls, h1, lensOk_mono hmn h2, fun t ht => Nat.le_trans hmn (h3 t ht)⟩

theorem manyOk_mono {m n : Nat} (hmn : m ≤ n) {ps : List Payload} (h : manyOk n ps) : manyOk m ps := by
  induction ps generalizing m n with
  | nil => trivial
  | cons p ps ih => exact ⟨okAt_mono hmn h.1, ih (Nat.add_le_add_right hmn _) h.2⟩

theorem opsOk_mono {m n : Nat} (hmn : m ≤ n) {ops : List Op} (h : opsOk n ops) : opsOk m ops :=
  (opsOk_iff m ops).mpr (manyOk_mono hmn ((opsOk_iff n ops).mp h))

theorem lensOk_of_fits {n : Nat} {ls : List Nat} (h : n + ls.sum ≤ writerLimit) : lensOk n ls := by
  induction ls generalizing n with
  | nil => trivial
  | cons l ls ih =>
    rw [List.sum_cons, ← Nat.add_assoc] at h
    exact ⟨.inr (Nat.le_trans (Nat.le_add_right ..) (Nat.le_trans (Nat.le_add_right ..) h)), ih h⟩

/-- The guard reads the buffer length at the *start* of a chunk: the last chunk never counts. -/
theorem lensOk_of_dropLast_fits {n : Nat} {ls : List Nat} (h : n + ls.dropLast.sum ≤ writerLimit) :
    lensOk n ls := by
  induction ls generalizing n with
  | nil => trivial
  | cons l ls ih =>
    cases ls with
    | nil => exact ⟨.inr h, trivial⟩
    | cons l' ls =>
      rw [List.dropLast_cons_cons, List.sum_cons, ← Nat.add_assoc] at h
      exact ⟨.inr (Nat.le_trans (Nat.le_add_right ..) (Nat.le_trans (Nat.le_add_right ..) h)), ih h⟩

theorem okAt_of_fits {p : Payload} {e : B} {n : Nat} (he : enc p = some e)
    (h : n + e.length ≤ writerLimit) : p.okAt n := by
  obtain ⟨cs, hc, rfl⟩ := chunks_of_enc he
  rw [Payload.okAt_iff, chunkLens_of_chunks hc]
  exact lensOk_of_fits (by rwa [← List.length_flatten])

/-- The guard reads the length at the start of a chunk, and before its last chunk a value hands over
at most 108 bytes (a Unix address block: its source path). With room for 216 bytes, the longest address
block and only a round bound, every encodable value is therefore accepted, whatever its size. -/
theorem okAt_of_room {p : Payload} {e : B} (he : enc p = some e) {n : Nat} (hn : n + 216 ≤ writerLimit) :
    p.okAt n := by
  obtain ⟨cs, hc, -⟩ := chunks_of_enc he
  rw [Payload.okAt_iff, chunkLens_of_chunks hc]
  refine lensOk_of_dropLast_fits (Nat.le_trans (Nat.add_le_add_left ?_ n) hn)
  cases p with
  | addresses a =>
    cases hc
    cases a with
    | unix a => show a.source.val.length + 0 ≤ 216; rw [a.source.property]; decide
    | ipv6 a =>
      show a.srcAddr.val.length + (a.dstAddr.val.length + (2 + 0)) ≤ 216
      rw [a.srcAddr.property, a.dstAddr.property]; decide
    | ipv4 a => exact (by decide : 10 ≤ 216)
    | unspec => exact Nat.zero_le _
  | slice bs => cases (Option.ite_none_left_eq_some.mp hc).2; exact Nat.zero_le _
  | tlv k v => cases (Option.ite_none_left_eq_some.mp hc).2; exact (by decide : 3 ≤ 216)
  | pair k v => cases (Option.ite_none_left_eq_some.mp hc).2; exact (by decide : 3 ≤ 216)
  | _ => cases hc; exact Nat.zero_le _

theorem manyOk_of_fits {ps : List Payload} {e : B} {n : Nat} (he : encAll ps = some e)
    (h : n + e.length ≤ writerLimit) : manyOk n ps := by
  induction ps generalizing n e with
  | nil => trivial
  | cons p ps ih =>
    obtain ⟨e1, e2, h1, h2, rfl⟩ := encAll_cons_some.mp he
    rw [List.length_append, ← Nat.add_assoc] at h
    exact ⟨okAt_of_fits h1 (Nat.le_trans (Nat.le_add_right ..) h), ih h2 (by rwa [encLen_of_enc h1])⟩

theorem guard_only_beyond_full_header {ops : List Op} {e : B} {n : Nat}
    (he : encAll (ops.flatMap opPayloads) = some e) (h : n + e.length ≤ writerLimit) :
    opsOk n ops :=
  (opsOk_iff n ops).mpr (manyOk_of_fits he h)

/-! ## `write_to` and runs of it, against the specification -/

/-- **`write_to`, exactly**: it succeeds iff the arithmetic guard holds at the buffer's
length; then it appends the specified encoding and reports its length. -/
theorem writeTo_ok_iff_enc (p : Payload) (w : Writer) (n : Nat) (w' : Writer) :
    p.writeTo w = .ok (n, w') ↔ p.okAt w.length ∧ ∃ e, enc p = some e ∧ w' = w ++ e ∧ n = e.length := by
  constructor
  · intro h
    cases hc : p.chunks with
    | none => rw [writeTo_eq, hc] at h; cases h
    | some cs =>
      rw [writeTo_of_chunks hc] at h
      cases hw : Writer.writeChunksE w cs with
      | error e => rw [hw] at h; cases h
      | ok w1 =>
        rw [hw] at h; cases h
        obtain ⟨g, rfl⟩ := (writeChunksE_ok_iff w cs w').mp hw
        exact ⟨(okAt_of_chunks hc w).mpr g, _, enc_of_chunks hc, rfl, rfl⟩
  · rintro ⟨hok, e, he, rfl, rfl⟩
    obtain ⟨cs, hc, rfl⟩ := chunks_of_enc he
    rw [writeTo_of_chunks hc, (writeChunksE_ok_iff w cs _).mpr ⟨(okAt_of_chunks hc w).mp hok, rfl⟩]

/-- **A run of `write_to` calls, exactly.** -/
theorem writeMany_some_iff (w : Writer) (ps : List Payload) (w' : Writer) :
    writeMany w ps = some w' ↔ manyOk w.length ps ∧ ∃ e, encAll ps = some e ∧ w' = w ++ e := by
  induction ps generalizing w with
  | nil => simp [writeMany, manyOk, encAll, eq_comm]
  | cons p ps ih =>
    constructor
    · intro h
      rw [writeMany] at h
      cases hp : p.writeTo w with
      | error e => rw [hp] at h; cases h
      | ok r =>
        rw [hp] at h
        obtain ⟨hok, e1, he1, hw, -⟩ := (writeTo_ok_iff_enc p w r.1 r.2).mp hp
        obtain ⟨hoks, e2, he2, rfl⟩ := (ih _).mp h
        rw [hw, List.length_append, ← encLen_of_enc he1] at hoks
        exact ⟨⟨hok, hoks⟩, _, encAll_cons_some.mpr ⟨e1, e2, he1, he2, rfl⟩, by rw [hw, List.append_assoc]⟩
    · rintro ⟨⟨hok, hoks⟩, e, he, rfl⟩
      obtain ⟨e1, e2, he1, he2, rfl⟩ := encAll_cons_some.mp he
      rw [writeMany, (writeTo_ok_iff_enc p w _ _).mpr ⟨hok, e1, he1, rfl, rfl⟩]
      exact (ih _).mpr ⟨by rwa [List.length_append, ← encLen_of_enc he1], e2, he2, (List.append_assoc ..).symm⟩

theorem writeMany_isSome_iff (ps : List Payload) (w : Writer) :
    (∃ w', writeMany w ps = some w') ↔ manyOk w.length ps := by
  constructor
  · rintro ⟨w', h⟩; exact ((writeMany_some_iff w ps w').mp h).1
  · intro h
    obtain ⟨e, he⟩ := manyOk_encAll h
    exact ⟨_, (writeMany_some_iff w ps _).mpr ⟨h, e, he, rfl⟩⟩

/-! ## the builder as a state machine -/

/-- Buffer contents once the fixed part has been written: signature, control
bytes, a length field holding `l0`, the construction-time address block, and
the payload bytes `bd` written so far. -/
def hdrOf (vc afp : UInt8) (addr : Addresses) (l0 : Nat) (bd : B) : B :=
  sig ++ [vc, afp] ++ be16Bytes l0 ++ Spec.V2.addrBytes addr ++ bd

/-- The buffer is a frame whose payload is the address block followed by what was written. -/
theorem hdrOf_eq_frame (vc afp : UInt8) (addr : Addresses) (l0 : Nat) (bd : B) :
    hdrOf vc afp addr l0 bd =
      frame vc afp (UInt8.ofNat (l0 / 256)) (UInt8.ofNat (l0 % 256)) (Spec.V2.addrBytes addr ++ bd) := by
  rw [hdrOf, frame, List.append_assoc, List.append_assoc, List.append_assoc]
  rfl

theorem hdrOf_append (vc afp addr l0 bd e) : hdrOf vc afp addr l0 bd ++ e = hdrOf vc afp addr l0 (bd ++ e) :=
  List.append_assoc _ bd e

theorem hdrOf_length (vc afp addr l0 bd) :
    (hdrOf vc afp addr l0 bd).length = 16 + (Spec.V2.addrBytes addr).length + bd.length := by
  rw [hdrOf_eq_frame, frame_length, List.length_append, Nat.add_assoc]

theorem hdrOf_drop16 (vc afp addr l0 bd) :
    (hdrOf vc afp addr l0 bd).drop 16 = Spec.V2.addrBytes addr ++ bd := by
  rw [hdrOf_eq_frame, frame_drop]

/-- The length field of a buffer of the builder's shape. -/
theorem be16_hdrOf (vc afp : UInt8) (addr : Addresses) (l : Nat) (bd : B) (hl : l < 65536) :
    be16 (byteAt (hdrOf vc afp addr l bd) 14) (byteAt (hdrOf vc afp addr l bd) 15) = l := by
  rw [hdrOf_eq_frame, frame_hi, frame_lo]
  exact be16_be16Bytes l hl

theorem hdrOf_patch (vc afp addr l0 l bd) :
    (hdrOf vc afp addr l0 bd).take 14 ++ be16Bytes l ++ (hdrOf vc afp addr l0 bd).drop 16 =
      hdrOf vc afp addr l bd := by
  simp only [hdrOf, List.append_assoc (_ ++ be16Bytes _)]
  exact patch_field (n := 14) rfl rfl

/-- The invariant of every reachable builder state. -/
structure Shape (b : Builder) (vc afp : UInt8) (addr : Addresses) (len : Option Nat) (bd : B) : Prop where
  hvc : b.versionCommand = vc
  hafp : b.addressFamilyProtocol = afp
  haddr : b.addresses = addr
  hlen : b.length = len
  hhdr : (b.header = none ∧ bd = []) ∨ ∃ l0, b.header = some (hdrOf vc afp addr l0 bd)

theorem shape_new (vc afp : UInt8) : Shape (Builder.new vc afp) vc afp .unspec none [] :=
  ⟨rfl, rfl, rfl, rfl, .inl ⟨rfl, rfl⟩⟩

theorem shape_withAddresses (vc : UInt8) (t : Transport) (a : Addresses) :
    Shape (Builder.withAddresses vc t a) vc (afpByte a.family t) a none [] :=
  ⟨rfl, rfl, rfl, rfl, .inl ⟨rfl, rfl⟩⟩

/-- The same with the family byte as the protocol document writes it. -/
theorem shape_withAddresses_spec (vc : UInt8) (t : Transport) (a : Addresses) :
    Shape (Builder.withAddresses vc t a) vc (Spec.V2.familyTransport a.family t) a none [] :=
  afpByte_eq_spec a.family t ▸ shape_withAddresses vc t a

/-- A state with the constructor fields of one of known shape has the shape its own length and
buffer give it. -/
theorem Shape.of_eq {b b' : Builder} {vc afp addr len len' bd bd'} (h : Shape b vc afp addr len bd)
    (h1 : b'.versionCommand = b.versionCommand) (h2 : b'.addressFamilyProtocol = b.addressFamilyProtocol)
    (h3 : b'.addresses = b.addresses) (h4 : b'.length = len')
    (h5 : (b'.header = none ∧ bd' = []) ∨ ∃ l0, b'.header = some (hdrOf vc afp addr l0 bd')) :
    Shape b' vc afp addr len' bd' :=
  ⟨h1.trans h.hvc, h2.trans h.hafp, h3.trans h.haddr, h4, h5⟩

/-- `write_header` always succeeds and establishes the written shape. -/
theorem writeHeader_shape {b vc afp addr len bd} (h : Shape b vc afp addr len bd) :
    ∃ b' l0, b.writeHeader = some b' ∧ Shape b' vc afp addr len bd ∧
      b'.header = some (hdrOf vc afp addr l0 bd) := by
  rcases h.hhdr with ⟨hn, rfl⟩ | ⟨l0, hs⟩
  · -- the 16 fixed bytes leave room for any address block
    have hw := (writeTo_ok_iff_enc (.addresses addr) (sig ++ [vc, afp] ++ be16Bytes (len.getD 0)) _ _).mpr
      ⟨okAt_of_room rfl (by decide : 16 + 216 ≤ writerLimit), _, rfl, rfl, rfl⟩
    refine ⟨{ b with header := some (hdrOf vc afp addr (len.getD 0) []) }, _, ?_,
      h.of_eq rfl rfl rfl h.hlen (.inr ⟨_, rfl⟩), rfl⟩
    simp only [Builder.writeHeader, hn, h.hvc, h.hafp, h.haddr, h.hlen, hw, hdrOf, List.append_nil]
  · exact ⟨b, l0, by simp only [Builder.writeHeader, hs], h, hs⟩

/-- The three writing calls are one operation: `write_header`, then the payloads of the call
in order into the buffer. -/
def Builder.writeCall (b : Builder) (ps : List Payload) : Option Builder :=
  b.writeHeader.bind fun b' => (writeMany (b'.header.getD []) ps).map fun w => { b' with header := some w }

theorem step_writePayloads (b : Builder) (ps : List Payload) :
    b.step (.writePayloads ps) = b.writeCall ps := by
  rw [Builder.step, Builder.writeCall]
  cases b.writeHeader with
  | none => rfl
  | some b' => simp only [Option.bind_some]; cases writeMany (b'.header.getD []) ps <;> rfl

theorem step_writePayload (b : Builder) (p : Payload) : b.step (.writePayload p) = b.writeCall [p] := by
  rw [Builder.step, Builder.writeCall]
  cases b.writeHeader with
  | none => rfl
  | some b' =>
    simp only [Option.bind_some, Builder.writeInternal, writeMany]
    cases p.writeTo (b'.header.getD []) <;> rfl

theorem step_writeTlv (b : Builder) (k : UInt8) (v : B) : b.step (.writeTlv k v) = b.writeCall [.tlv k v] :=
  step_writePayload b (.tlv k v)

/-- Writing payloads from a state of known shape: accepted iff the arithmetic guard holds at the
buffer's length; then the payload part grows by their encodings. -/
theorem writeCall_spec {b vc afp addr len bd} (h : Shape b vc afp addr len bd) (ps : List Payload) :
    match b.writeCall ps with
    | none => ¬ manyOk (16 + (Spec.V2.addrBytes addr).length + bd.length) ps
    | some b' => manyOk (16 + (Spec.V2.addrBytes addr).length + bd.length) ps ∧
        ∃ e, encAll ps = some e ∧ Shape b' vc afp addr len (bd ++ e) := by
  obtain ⟨b1, l0, hw, hsh, hh⟩ := writeHeader_shape h
  simp only [Builder.writeCall, hw, hh, Option.bind_some, Option.getD_some, ← hdrOf_length vc afp addr l0 bd]
  cases hm : writeMany (hdrOf vc afp addr l0 bd) ps with
  | none => exact fun hok => by simpa [hm] using (writeMany_isSome_iff ps _).mpr hok
  | some w' =>
    obtain ⟨hok, e, he, rfl⟩ := (writeMany_some_iff _ _ _).mp hm
    exact ⟨hok, e, he, hsh.of_eq rfl rfl rfl hsh.hlen (.inr ⟨l0, by rw [hdrOf_append]⟩)⟩

/-- A list that contains a refused value fails, from every builder state. -/
theorem writeCall_refused (b : Builder) {ps : List Payload} {p : Payload} (hp : p ∈ ps) (he : enc p = none) :
    b.writeCall ps = none := by
  rw [Builder.writeCall]
  cases b.writeHeader with
  | none => rfl
  | some b' =>
    cases hw : writeMany (b'.header.getD []) ps with
    | none => rw [Option.bind_some, hw]; rfl
    | some w' =>
      obtain ⟨-, e, hall, -⟩ := (writeMany_some_iff _ ps w').mp hw
      obtain ⟨ep, hep⟩ := encAll_some_all hall p hp
      rw [he] at hep; cases hep

/-- **One call, exactly**: it is accepted iff `opOk` holds at the buffer's
length (16 fixed bytes, address block, payload so far); the payload part then grows by exactly the
encodings of the call's payloads, and only `set_length` changes the explicit length. -/
theorem step_spec {b vc afp addr len bd} (h : Shape b vc afp addr len bd) (op : Op) :
    match b.step op with
    | none => ¬ opOk (16 + (Spec.V2.addrBytes addr).length + bd.length) op
    | some b' => opOk (16 + (Spec.V2.addrBytes addr).length + bd.length) op ∧
        ∃ e, encAll (opPayloads op) = some e ∧ Shape b' vc afp addr (lengthFrom len [op]) (bd ++ e) := by
  cases op with
  | reserve n =>
    rw [Builder.step]
    rcases h.hhdr with ⟨hn, rfl⟩ | ⟨l0, hs⟩
    · rw [hn]; exact ⟨trivial, [], rfl, h.of_eq rfl rfl rfl h.hlen (.inl ⟨rfl, rfl⟩)⟩
    · rw [hs]; exact ⟨trivial, [], rfl, (List.append_nil bd).symm ▸ h⟩
  | setLength l => exact ⟨trivial, [], rfl, (List.append_nil bd).symm ▸ h.of_eq rfl rfl rfl rfl h.hhdr⟩
  | writePayload p => rw [step_writePayload, opOk_iff]; exact writeCall_spec h _
  | writeTlv k v => rw [step_writeTlv, opOk_iff]; exact writeCall_spec h _
  | writePayloads ps => rw [step_writePayloads, opOk_iff]; exact writeCall_spec h _

/-- **A call history, exactly**: `step_spec` along the history. -/
theorem runFrom_spec {b vc afp addr len bd} (h : Shape b vc afp addr len bd) (ops : List Op) :
    match Builder.runFrom b ops with
    | none => ¬ opsOk (16 + (Spec.V2.addrBytes addr).length + bd.length) ops
    | some b' => opsOk (16 + (Spec.V2.addrBytes addr).length + bd.length) ops ∧
        ∃ e, Spec.Builder.body ops = some e ∧ Shape b' vc afp addr (lengthFrom len ops) (bd ++ e) := by
  induction ops generalizing b len bd with
  | nil => exact ⟨trivial, [], rfl, (List.append_nil bd).symm ▸ h⟩
  | cons op ops ih =>
    have hs := step_spec h op
    cases hb : b.step op with
    | none =>
      rw [hb] at hs
      simp only [Builder.runFrom, hb, opsOk]
      exact fun hok => hs hok.1
    | some b1 =>
      rw [hb] at hs
      obtain ⟨hok, e1, he1, hsh1⟩ := hs
      have := ih hsh1
      rw [List.length_append, ← Nat.add_assoc, ← encAll_len he1, ← opLen_eq_sum] at this
      simp only [Builder.runFrom, hb, opsOk]
      cases hr : Builder.runFrom b1 ops with
      | none => rw [hr] at this; exact fun hok => this hok.2
      | some b2 =>
        rw [hr] at this
        obtain ⟨hok2, e2, he2, hsh2⟩ := this
        exact ⟨⟨hok, hok2⟩, e1 ++ e2, encAll_append he1 he2,
          List.append_assoc bd e1 e2 ▸ hsh2⟩

theorem runFrom_shape {b vc afp addr len bd} (h : Shape b vc afp addr len bd) (ops : List Op)
    (b' : Builder) (hr : Builder.runFrom b ops = some b') :
    ∃ e, Spec.Builder.body ops = some e ∧ Shape b' vc afp addr (lengthFrom len ops) (bd ++ e) := by
  have := runFrom_spec h ops
  rw [hr] at this; exact this.2

theorem runFrom_isSome_iff {b vc afp addr len bd} (h : Shape b vc afp addr len bd) (ops : List Op) :
    (∃ b', Builder.runFrom b ops = some b') ↔
      opsOk (16 + (Spec.V2.addrBytes addr).length + bd.length) ops := by
  have := runFrom_spec h ops
  cases hr : Builder.runFrom b ops <;> rw [hr] at this <;> simp [this]

theorem step_eq_none_iff {b vc afp addr len bd} (h : Shape b vc afp addr len bd) (op : Op) :
    b.step op = none ↔ ¬ opOk (16 + (Spec.V2.addrBytes addr).length + bd.length) op := by
  have := step_spec h op
  cases hr : b.step op <;> rw [hr] at this <;> simp [this]

theorem run_cons (b : Builder) (op : Op) (ops : List Op) :
    b.run (op :: ops) = (b.step op).bind (·.run ops) := by
  rw [Builder.run, Builder.runFrom]
  cases b.step op <;> rfl

theorem run_append (b : Builder) (ops1 ops2 : List Op) :
    b.run (ops1 ++ ops2) = (Builder.runFrom b ops1).bind (·.run ops2) := by
  induction ops1 generalizing b with
  | nil => rfl
  | cons op ops ih =>
    rw [List.cons_append, run_cons, Builder.runFrom]
    cases b.step op with
    | none => rfl
    | some b1 => exact ih b1

/-- What `build` returns from a state of known shape. -/
def buildOf (vc afp : UInt8) (addr : Addresses) (len : Option Nat) (bd : B) : Option B :=
  if len ≠ none ∨ (Spec.V2.addrBytes addr).length + bd.length ≤ 65535 then
    some (hdrOf vc afp addr (len.getD ((Spec.V2.addrBytes addr).length + bd.length)) bd)
  else none

/-- `build` fails only for want of an explicit length when the payload does not fit 16 bits. -/
theorem buildOf_eq_none_iff {vc afp : UInt8} {addr : Addresses} {len : Option Nat} {bd : B} :
    buildOf vc afp addr len bd = none ↔ len = none ∧ 65535 < (Spec.V2.addrBytes addr).length + bd.length :=
  ite_some_eq_none.trans (by rw [not_or, Classical.not_not, Nat.not_le])

theorem build_shape {b vc afp addr len bd} (h : Shape b vc afp addr len bd) :
    b.build = buildOf vc afp addr len bd := by
  obtain ⟨b1, l0, hw, hsh, hh⟩ := writeHeader_shape h
  simp only [Builder.build, hw, hh, Option.getD_some, hsh.hlen, hdrOf_patch, minLen]
  simp only [hdrOf_drop16, List.length_append, buildOf]
  cases len <;> simp

/-- **The run of a call history from any reachable state, in closed form.** -/
theorem run_shape {b vc afp addr len bd} (h : Shape b vc afp addr len bd) (ops : List Op) :
    b.run ops =
      if opsOk (16 + (Spec.V2.addrBytes addr).length + bd.length) ops then
        (Spec.Builder.body ops).bind fun e => buildOf vc afp addr (lengthFrom len ops) (bd ++ e)
      else none := by
  have := runFrom_spec h ops
  simp only [Builder.run]
  cases hr : Builder.runFrom b ops with
  | none => rw [hr] at this; rw [if_neg this]
  | some b' =>
    rw [hr] at this
    obtain ⟨hok, e, he, hsh⟩ := this
    simp only [if_pos hok, he, Option.bind_some, build_shape hsh]

/-- The reference output in terms of `hdrOf`. -/
theorem reference_eq (vc afp : UInt8) (addr : Addresses) (ops : List Op) :
    reference vc afp addr ops = (Spec.Builder.body ops).map fun e =>
      hdrOf vc afp addr ((lengthInForce ops).getD ((Spec.V2.addrBytes addr).length + e.length)) e := by
  rw [reference]
  cases Spec.Builder.body ops with
  | none => rfl
  | some e => simp only [hdrOf, List.length_append, List.append_assoc, Option.map_some]; rfl

/-- A successful run, in closed form. -/
theorem run_some {b vc afp addr len bd} (h : Shape b vc afp addr len bd) (ops : List Op) (out : B)
    (hr : b.run ops = some out) :
    opsOk (16 + (Spec.V2.addrBytes addr).length + bd.length) ops ∧
    ∃ e, Spec.Builder.body ops = some e ∧
      (lengthFrom len ops = none → (Spec.V2.addrBytes addr).length + (bd ++ e).length ≤ 65535) ∧
      out = hdrOf vc afp addr
        ((lengthFrom len ops).getD ((Spec.V2.addrBytes addr).length + (bd ++ e).length)) (bd ++ e) := by
  rw [run_shape h] at hr
  obtain ⟨hok, hr⟩ := Option.ite_none_right_eq_some.mp hr
  obtain ⟨e, he, hb⟩ := Option.bind_eq_some_iff.mp hr
  obtain ⟨hfit, hb⟩ := Option.ite_none_right_eq_some.mp hb
  exact ⟨hok, e, he, fun hn => hfit.resolve_left (not_not_intro hn), (Option.some.inj hb).symm⟩

/-- A run whose payload fits in a full-size header succeeds, in closed form. -/
theorem run_succeeds {b : Builder} {vc afp : UInt8} {addr : Addresses} (h : Shape b vc afp addr none [])
    (ops : List Op) (e : B) (he : Spec.Builder.body ops = some e)
    (hfit : (Spec.V2.addrBytes addr).length + e.length ≤ 65535) :
    b.run ops = some (hdrOf vc afp addr ((lengthInForce ops).getD ((Spec.V2.addrBytes addr).length + e.length)) e) := by
  rw [run_shape h, if_pos (guard_only_beyond_full_header he (by simp [writerLimit, minLen]; omega)), he]
  exact if_pos (.inr hfit)

/-- **The run of a call history, exactly.** Every write must pass the
writer's guard (`opsOk`, on lengths only, starting from the 16 fixed bytes and
the address block), and unless an explicit length is in force the payload must
fit the 16-bit length field; then the result is the reference output, otherwise
the run fails. -/
theorem run_exact {b vc afp addr} (h : Shape b vc afp addr none []) (ops : List Op) :
    b.run ops =
      if opsOk (16 + (Spec.V2.addrBytes addr).length) ops ∧
          (lengthInForce ops ≠ none ∨ (Spec.V2.addrBytes addr).length + payloadLen ops ≤ 65535)
      then reference vc afp addr ops else none := by
  rw [run_shape h, reference_eq]
  by_cases hok : opsOk (16 + (Spec.V2.addrBytes addr).length) ops
  · obtain ⟨e, he⟩ := opsOk_body hok
    simp [hok, he, payloadLen_of_body he, buildOf, lengthInForce]
  · simp [hok]

/-- The run succeeds iff every write is accepted and the final length fits (or is explicit). -/
theorem run_isSome_iff {b vc afp addr} (h : Shape b vc afp addr none []) (ops : List Op) :
    (∃ out, b.run ops = some out) ↔
      opsOk (16 + (Spec.V2.addrBytes addr).length) ops ∧
      (lengthInForce ops ≠ none ∨ (Spec.V2.addrBytes addr).length + payloadLen ops ≤ 65535) := by
  rw [run_exact h]
  constructor
  · rintro ⟨out, ho⟩; exact (Option.ite_none_right_eq_some.mp ho).1
  · intro hc
    obtain ⟨e, he⟩ := opsOk_body hc.1
    rw [if_pos hc, reference_eq, he]; exact ⟨_, rfl⟩

/-- A builder carrying the protocol's control bytes, fed calls whose encodings, after its own
address block, make up `addrBytes addr ++ rest`, builds the wire encoding of `addr` and `rest`. -/
theorem run_eq_encode (cmd : Command) (tr : Transport) (addr : Addresses) (rest : B)
    (hle : (Spec.V2.addrBytes addr).length + rest.length ≤ 65535)
    {b : Builder} {caddr : Addresses}
    (hb : Shape b (Spec.V2.versionCommand cmd) (Spec.V2.familyTransport addr.family tr) caddr none [])
    (ops : List Op) (e : B) (he : Spec.Builder.body ops = some e) (hno : lengthInForce ops = none)
    (hpay : Spec.V2.addrBytes caddr ++ e = Spec.V2.addrBytes addr ++ rest) :
    b.run ops = some (Spec.V2.encode cmd tr addr rest) := by
  have hlen : (Spec.V2.addrBytes caddr).length + e.length = (Spec.V2.addrBytes addr).length + rest.length := by
    rw [← List.length_append, hpay, List.length_append]
  rw [run_succeeds hb ops e he (hlen ▸ hle), hno, hlen, Option.getD_none, hdrOf_eq_frame, hpay, encode_eq_frame]

/-! ## the result depends on the history only through its payloads and its length in force -/

/-- Two states of the same shape (they may differ in the captured length field,
in whether the fixed part has been written yet while nothing has been written
after it, and in the capacity hint). -/
def Sim (b b' : Builder) : Prop :=
  ∃ vc afp addr len bd, Shape b vc afp addr len bd ∧ Shape b' vc afp addr len bd

theorem Shape.sim {b vc afp addr len bd} (h : Shape b vc afp addr len bd) : Sim b b := ⟨_, _, _, _, _, h, h⟩

/-- States of the same shape give the same results, for histories that write the same payloads
in the same order and end with the same explicit length: how the payloads are grouped into calls,
and capacity reservations, do not matter. -/
theorem run_congr {b b' : Builder} (h : Sim b b') {ops ops' : List Op}
    (hp : ops.flatMap opPayloads = ops'.flatMap opPayloads)
    (hl : ∀ acc, lengthFrom acc ops = lengthFrom acc ops') : b.run ops = b'.run ops' := by
  obtain ⟨vc, afp, addr, len, bd, hs, hs'⟩ := h
  simp only [run_shape hs, run_shape hs', opsOk_iff, Spec.Builder.body, hp, hl]

theorem run_sim {b b' : Builder} (h : Sim b b') (ops : List Op) : b.run ops = b'.run ops :=
  run_congr h rfl fun _ => rfl

theorem sim_shape_left {b b' : Builder} (h : Sim b b') : ∃ vc afp addr len bd, Shape b vc afp addr len bd := by
  obtain ⟨vc, afp, addr, len, bd, hs, -⟩ := h; exact ⟨_, _, _, _, _, hs⟩

theorem sim_symm {b b' : Builder} (h : Sim b b') : Sim b' b := by
  obtain ⟨vc, afp, addr, len, bd, hs, hs'⟩ := h; exact ⟨_, _, _, _, _, hs', hs⟩

/-! ## `build` never panics -/

/-- `build` never indexes out of range: every reachable state has written (or is about to
write) the 16-byte fixed part. -/
theorem buildP_eq {b vc afp addr len bd} (h : Shape b vc afp addr len bd) : b.buildP = .val b.build := by
  obtain ⟨b1, l0, hw, -, hh⟩ := writeHeader_shape h
  simp only [Builder.buildP, hw, hh, Option.getD_some, hdrOf_length, minLen]
  rw [if_neg (Nat.not_lt.mpr (Nat.le_trans (Nat.le_add_right ..) (Nat.le_add_right ..)))]

/-- … in particular after any call history from either constructor. -/
theorem buildP_reachable (b0 : Builder) (hb : (∃ vc afp, b0 = Builder.new vc afp) ∨ (∃ vc t a, b0 = Builder.withAddresses vc t a))
    (ops : List Op) (b : Builder) (hr : Builder.runFrom b0 ops = some b) : b.buildP = .val b.build := by
  rcases hb with ⟨vc, afp, rfl⟩ | ⟨vc, t, a, rfl⟩
  · obtain ⟨e, -, hsh⟩ := runFrom_shape (shape_new vc afp) ops b hr
    exact buildP_eq hsh
  · obtain ⟨e, -, hsh⟩ := runFrom_shape (shape_withAddresses vc t a) ops b hr
    exact buildP_eq hsh

/-! ## the guard on a byte slice, and beyond the limit -/

/-- A slice is accepted iff it fits 16 bits and is empty or starts within the limit: a non-empty
write on a buffer beyond the limit is refused. -/
theorem okAt_slice_iff (bs : B) (n : Nat) :
    (Payload.slice bs).okAt n ↔ bs.length ≤ 65535 ∧ (bs = [] ∨ n ≤ writerLimit) := by
  rw [Payload.okAt_iff, Payload.chunkLens, Payload.chunks]
  split
  · exact ⟨False.elim, fun h => absurd h.1 (Nat.not_le.mpr ‹_›)⟩
  · simp only [Option.map_some, List.map_cons, List.map_nil, lensOkOpt, lensOk, and_true,
      List.length_eq_zero_iff]
    exact (and_iff_right (Nat.not_lt.mp ‹_›)).symm

theorem encLen_slice (bs : B) :
    (Payload.slice bs).encLen = if bs.length ≤ 65535 then bs.length else 0 := by
  by_cases h : bs.length ≤ 65535
  · rw [if_pos h, encLen_of_enc (enc_slice h)]
  · rw [if_neg h, Payload.encLen, Payload.chunkLens, Payload.chunks, if_pos (Nat.not_le.mp h)]; rfl

/-- Beyond the limit only empty chunks are accepted. -/
theorem lensOk_beyond {n : Nat} (hn : writerLimit < n) (ls : List Nat) :
    lensOk n ls ↔ ∀ l ∈ ls, l = 0 := by
  induction ls generalizing n with
  | nil => exact ⟨fun _ => nofun, fun _ => trivial⟩
  | cons l ls ih =>
    rw [lensOk, List.forall_mem_cons, ih (Nat.lt_add_right l hn), or_iff_left (Nat.not_le.mpr hn)]

/-! ## non-vacuity -/

/-- A 65535-byte slice, then one byte, then an empty slice, then one more byte. -/
def crossing : List Op :=
  [.writePayload (.slice (List.replicate 65535 0)), .writePayload (.slice [0]),
   .writePayload (.slice []), .writePayload (.slice [0])]

/-- The first write fills the buffer to exactly `writerLimit` (16 + 65535), the
second is still accepted (the guard reads the length *before* the write) and
takes it to 65552, an empty slice is still accepted there … -/
theorem crossing_accepted : opsOk 16 (crossing.take 3) := by
  simp only [crossing, List.take, opsOk, opOk, opLen, okAt_slice_iff, encLen_slice,
    List.length_replicate, List.length_cons, List.length_nil]
  decide +kernel

/-- … and the first non-empty write after the crossing is refused. -/
theorem crossing_refused : ¬ opsOk 16 crossing := by
  simp only [crossing, opsOk, opOk, opLen, okAt_slice_iff, encLen_slice,
    List.length_replicate, List.length_cons, List.length_nil]
  decide +kernel

example : opsOk 16 (crossing.take 3) := crossing_accepted

example : ¬ opsOk 16 crossing := crossing_refused

example (vc afp : UInt8) : (Builder.new vc afp).run crossing = none := by
  rw [run_exact (shape_new vc afp), if_neg fun h => crossing_refused h.1]

/-- With an explicit length in force the three accepted writes build the
reference output although 65536 payload bytes do not fit the length field … -/
example (vc afp : UInt8) :
    (Builder.new vc afp).run (.setLength (some 7) :: crossing.take 3) =
      reference vc afp .unspec (.setLength (some 7) :: crossing.take 3) := by
  rw [run_exact (shape_new vc afp), if_pos ⟨⟨trivial, crossing_accepted⟩, .inl (Option.some_ne_none 7)⟩]

theorem payloadLen_crossing : payloadLen (crossing.take 2) = 65536 := by
  simp only [crossing, List.take, payloadLen, List.map_cons, List.map_nil, opLen, encLen_slice,
    List.length_replicate, List.length_cons, List.length_nil, List.sum_cons, List.sum_nil]
  decide +kernel

/-- … and without one the same accepted writes fail at `build`, on the length alone. -/
example (vc afp : UInt8) : (Builder.new vc afp).run (crossing.take 2) = none := by
  rw [run_exact (shape_new vc afp), payloadLen_crossing, if_neg fun h => h.2.elim (· rfl) (by decide)]

/-! The predicates evaluate (`Decidable` instances), here by `decide` on small
values near the limit `65551`: -/

example : lensOk 16 [65535, 1, 0] := by decide +kernel
example : ¬ lensOk 16 [65535, 1, 0, 1] := by decide +kernel
example : opsOk 65551 [.writePayload (.slice [0]), .reserve 3, .writePayload (.slice []),
    .setLength none] := by decide +kernel
example : ¬ opsOk 65551 [.writePayload (.slice [0]), .writePayload (.slice [0])] := by decide +kernel
/-- a type code is a `write`, refused on a buffer beyond the limit, accepted at the limit -/
example : opsOk 65551 [.writePayload (.type .noOp)] ∧ ¬ opsOk 65552 [.writePayload (.type .noOp)] := by
  decide +kernel
/-- a TLV is three chunks: at 65551 the kind byte is accepted and the length bytes are refused -/
example : opsOk 65550 [.writeTlv 4 []] ∧ ¬ opsOk 65551 [.writeTlv 4 []] := by decide +kernel
/-- `write_payloads` threads the running length through its payloads -/
example : ¬ opsOk 65550 [.writePayloads [.slice [0, 0], .slice [], .slice [0]]] ∧
    opsOk 65550 [.writePayloads [.slice [0], .slice [], .slice [0]]] := by decide +kernel

end V2
