import PppModel.Lemmas.V2
import PppModel.Lemmas.Tlv

/-!
# The v2 panic-aware layer never panics

Every `…P` function of the v2 model returns `.val` of the corresponding pure function: every
index / slice / `copy_from_slice` / `usize` subtraction is preceded by a sufficient length check.
`parseAddressesP_eq` (on its only call path), `parseP_eq`, the four header accessors
(`lengthP_eq`, `addressBytesEndP_eq`, `addressBytesP_eq`, `tlvBytesP_eq`) and `Header.displayP_eq`,
`nextP_eq` and the loop over it `runP_eq`.
-/

namespace V2

/-! ## N1: address decoding -/

/-- **N1.** On a slice of exactly the family's size (the only call path),
`parse_addresses` does not panic and agrees with the pure model. -/
theorem parseAddressesP_eq (f : Family) (bytes : B) (h : bytes.length = f.size) :
    parseAddressesP f bytes = .val (parseAddresses f bytes) := by
  cases f <;> simp only [Family.size, Family.byteLength, Option.getD] at h
  · rfl
  -- every guard of the primitives is a comparison of literals once the lengths are computed from `h`
  all_goals
    simp only [parseAddressesP, idxP_of_lt, sliceToP_of_le, sliceP_of_le, sliceFromP_of_le, FixB.ofListP_of_length,
      List.length_take, List.length_drop, h, Nat.min_def, Nat.reduceLeDiff, Nat.reduceLT, Nat.reduceSub, if_true,
      Outcome.val_bind]
    rfl

/-! ## N2: the parser -/

/-- **N2.** For every byte string the panic-aware parser returns normally and
agrees with the pure parser: each index, slice, `copy_from_slice` and the
`usize` subtraction `x.len() - MINIMUM_LENGTH` is guarded by an earlier length
check on the same path. That subtraction (`subP`, which panics on underflow as an
overflow-checked build would) is the only one in the v2 model, so checked and unchecked
builds agree on every input. -/
theorem parseP_eq (x : B) : parseP x = .val (parse x) := by
  unfold parseP parse gate
  by_cases h12 : x.length < sig.length
  · rw [if_pos h12, if_pos h12]
    split <;> rfl
  · have h12' : 12 ≤ x.length := Nat.le_of_not_lt h12
    rw [if_neg h12, if_neg h12, sliceToP_of_le h12', Outcome.val_bind]
    by_cases hsig : x.take 12 = sig
    · rw [if_neg (not_not_intro hsig), if_neg (not_not_intro hsig)]
      by_cases h16 : x.length < minLen
      · rw [if_pos h16, if_pos h16]; rfl
      · have h16' : 16 ≤ x.length := Nat.le_of_not_lt h16
        have hi : ∀ {i}, i < 16 → i < x.length := fun h => Nat.lt_of_lt_of_le h h16'
        rw [if_neg h16, if_neg h16, idxP_of_lt (hi (by decide)), Outcome.val_bind, idxP_of_lt (hi (by decide)),
          Outcome.val_bind]
        rcases control (byteAt x 12) (byteAt x 13) with e | ⟨v, c, f, t⟩
        · rfl
        · show (idxP x 14 >>= _) = .val (body x v c f t)
          rw [idxP_of_lt (hi (by decide)), Outcome.val_bind, idxP_of_lt (hi (by decide)), Outcome.val_bind, body]
          generalize be16 (byteAt x 14) (byteAt x 15) = len
          by_cases hls : len < f.size
          · rw [if_pos hls, if_pos hls]; rfl
          · rw [if_neg hls, if_neg hls]
            by_cases hfull : x.length < minLen + len
            · rw [if_pos hfull, if_pos hfull, subP_of_le (b := minLen) h16']; rfl
            · have hfull' : minLen + len ≤ x.length := Nat.le_of_not_lt hfull
              have hs : minLen + f.size ≤ (x.take (minLen + len)).length := by
                rw [List.length_take, Nat.min_eq_left hfull']
                exact Nat.add_le_add_left (Nat.le_of_not_lt hls) _
              rw [if_neg hfull, if_neg hfull, sliceToP_of_le hfull', Outcome.val_bind,
                sliceP_of_le (Nat.le_add_right ..) hs, Outcome.val_bind, parseAddressesP_eq]
              · rfl
              · rw [List.length_drop, List.length_take, Nat.min_eq_left hs, Nat.add_sub_cancel_left]
    · rw [if_pos hsig, if_pos hsig]; rfl

/-! ## N3: header accessors -/

/-- `Header::length` does not panic on any header value with at least 16 bytes. -/
theorem lengthP_eq (h : Header) (hl : 16 ≤ h.header.length) : h.lengthP = .val h.length := by
  rw [Header.lengthP, sliceFromP_of_le (a := minLen) hl]
  rfl

theorem addressBytesEndP_eq (h : Header) (hl : 16 ≤ h.header.length) :
    h.addressBytesEndP = .val h.addressBytesEnd := by
  rw [Header.addressBytesEndP, lengthP_eq h hl]
  rfl

theorem addressBytesP_eq (h : Header) (hl : 16 ≤ h.header.length) :
    h.addressBytesP = .val h.addressBytes := by
  obtain ⟨h1, h2⟩ := h.addressBytesEnd_bounds hl
  rw [Header.addressBytesP, addressBytesEndP_eq h hl, Outcome.val_bind, sliceP_of_le h1 h2]
  rfl

theorem tlvBytesP_eq (h : Header) (hl : 16 ≤ h.header.length) :
    h.tlvBytesP = .val h.tlvBytes := by
  rw [Header.tlvBytesP, addressBytesEndP_eq h hl, Outcome.val_bind,
    sliceFromP_of_le (h.addressBytesEnd_bounds hl).2]
  rfl

/-- `Display` goes through `length()`; no panic once the 16 fixed bytes are there. -/
theorem Header.displayP_eq (h : Header) (hl : 16 ≤ h.header.length) :
    h.displayP = .val h.display := by
  rw [Header.displayP, lengthP_eq h hl]
  rfl

/-- Hence none of the four accessors panics on a parsed header. -/
theorem accepted_accessors {x : B} {h : Header} (hp : parse x = .ok h) :
    h.lengthP = .val h.length ∧ h.addressBytesEndP = .val h.addressBytesEnd ∧
    h.addressBytesP = .val h.addressBytes ∧ h.tlvBytesP = .val h.tlvBytes :=
  have hl := accepted_len hp
  ⟨lengthP_eq h hl, addressBytesEndP_eq h hl, addressBytesP_eq h hl, tlvBytesP_eq h hl⟩

/-- The same, phrased on the panic-aware parser's own output. -/
theorem parseP_accessors {x : B} {h : Header} (hp : parseP x = .val (.ok h)) :
    h.lengthP = .val h.length ∧ h.addressBytesEndP = .val h.addressBytesEnd ∧
    h.addressBytesP = .val h.addressBytes ∧ h.tlvBytesP = .val h.tlvBytes := by
  rw [parseP_eq] at hp
  exact accepted_accessors (Outcome.val.inj hp)

/-! ## N4: TLV iteration -/

/-- **N4.** `Iterator::next` on `TypeLengthValues` does not panic in any state. -/
theorem nextP_eq (it : Iter) : it.nextP = .val it.next := by
  unfold Iter.nextP Iter.next
  by_cases hoff : it.offset ≥ it.bytes.length
  · rw [if_pos hoff, if_pos hoff]
  · rw [if_neg hoff, if_neg hoff, sliceFromP_of_le (Nat.le_of_not_le hoff), Outcome.val_bind]
    generalize it.bytes.drop it.offset = rem
    by_cases h3 : rem.length < minTlvLen
    · rw [if_pos h3, if_pos h3]; rfl
    · have hi : ∀ {i}, i < 3 → i < rem.length := fun h => Nat.lt_of_lt_of_le h (Nat.le_of_not_lt h3)
      rw [if_neg h3, if_neg h3, idxP_of_lt (hi (by decide)), Outcome.val_bind, idxP_of_lt (hi (by decide)),
        Outcome.val_bind, idxP_of_lt (hi (by decide)), Outcome.val_bind]
      generalize be16 (byteAt rem 1) (byteAt rem 2) = len
      by_cases hlen : rem.length < minTlvLen + len
      · rw [if_pos hlen, if_pos hlen]; rfl
      · rw [if_neg hlen, if_neg hlen, sliceP_of_le (Nat.le_add_right ..) (Nat.le_of_not_lt hlen)]
        rfl

/-- An exhausted iterator stays exhausted and `nextP` keeps returning `none`
without panicking. -/
theorem nextP_none_of_exhausted (it : Iter) (h : it.bytes.length ≤ it.offset) :
    it.nextP = .val none := by
  rw [nextP_eq, (Iter.next_none_iff it).mpr h]

/-- The fuelled loop over `nextP` never panics and is the fuelled loop over `next`. -/
theorem runP_eq (fuel : Nat) (it : Iter) : Iter.runP fuel it = .val (Iter.run fuel it) := by
  induction fuel generalizing it with
  | zero => rfl
  | succ fuel ih =>
    simp only [Iter.runP, Iter.run, nextP_eq]
    cases it.next with
    | none => rfl
    | some p =>
      obtain ⟨i, it'⟩ := p
      simp only [ih]

end V2
