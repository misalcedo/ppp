import PppModel.V1.Parse
import PppModel.Lemmas.Bytes
import PppModel.Lemmas.Digits

/-!
# Decimal text, ports and IPv4 addresses: exact characterisations

* `StdInt.dec` produces canonical decimal text (digits only, non-empty, no leading zero, injective);
* `V1.parsePort` accepts exactly the canonical decimal texts of `u16` values, and which error it gives
  by the first byte of a text that is not one: empty, a sign, a leading zero, no digit (a later bad byte
  and a value out of range, which speak of the grammar's `Decimal`, are in Lemmas/SpecText);
* `StdNet.parseIpv4` accepts exactly the outputs of `StdNet.displayIpv4`.
-/

/-! ## Digits -/

/-- ASCII decimal digit. -/
def IsDig (c : UInt8) : Prop := 0x30 ≤ c ∧ c ≤ 0x39

instance (c : UInt8) : Decidable (IsDig c) := by unfold IsDig; infer_instance

theorem isDig_iff_toNat {c : UInt8} : IsDig c ↔ 48 ≤ c.toNat ∧ c.toNat ≤ 57 := by
  unfold IsDig
  rw [UInt8.le_iff_toNat_le, UInt8.le_iff_toNat_le]
  rfl

theorem IsDig.toNat {c : UInt8} (h : IsDig c) : 48 ≤ c.toNat ∧ c.toNat ≤ 57 :=
  isDig_iff_toNat.mp h

theorem IsDig.digit_lt {c : UInt8} (h : IsDig c) : c.toNat - 48 < 10 := by
  have := h.toNat; omega

theorem isDig_ofNat {k : Nat} (h : k < 10) : IsDig (UInt8.ofNat (48 + k)) := by
  rw [isDig_iff_toNat, toNat_ofNat_lt (show 48 + k < 256 by omega)]
  exact ⟨Nat.le_add_right 48 k, Nat.add_le_add_left (Nat.le_of_lt_succ h) 48⟩

/-- Left-to-right decimal value with an accumulator (the fold of every digit loop). -/
def valL : List UInt8 → Nat → Nat
  | [], acc => acc
  | c :: cs, acc => valL cs (acc * 10 + (c.toNat - 48))

/-- Same with the accumulator first. (Defined through `valL`: matching with the `Nat`
argument first makes `whnf` evaluate `_ - 48` by unary recursion.) -/
def valAcc (acc : Nat) (ds : List UInt8) : Nat := valL ds acc

@[simp] theorem valAcc_nil (acc : Nat) : valAcc acc [] = acc := by simp only [valAcc, valL]
@[simp] theorem valAcc_cons (acc : Nat) (c : UInt8) (cs : B) :
    valAcc acc (c :: cs) = valAcc (acc * 10 + (c.toNat - 48)) cs := by simp only [valAcc, valL]

theorem valAcc_append (acc : Nat) (x y : B) : valAcc acc (x ++ y) = valAcc (valAcc acc x) y := by
  induction x generalizing acc with
  | nil => rfl
  | cons c cs ih => simp only [List.cons_append, valAcc_cons, ih]

theorem le_valAcc (acc : Nat) (x : B) : acc ≤ valAcc acc x := by
  induction x generalizing acc with
  | nil => exact Nat.le_refl acc
  | cons c cs ih =>
    rw [valAcc_cons]
    exact Nat.le_trans (Nat.le_trans (Nat.le_mul_of_pos_right acc (by decide)) (Nat.le_add_right _ _)) (ih _)

theorem valAcc_mono {a b : Nat} (h : a ≤ b) (x : B) : valAcc a x ≤ valAcc b x := by
  induction x generalizing a b with
  | nil => exact h
  | cons c cs ih =>
    rw [valAcc_cons, valAcc_cons]
    exact ih (Nat.add_le_add_right (Nat.mul_le_mul_right 10 h) _)

/-- Canonical decimal text: non-empty, digits only, no leading zero unless it is `"0"`. -/
def Canon (ds : B) : Prop :=
  ds ≠ [] ∧ (∀ c ∈ ds, IsDig c) ∧ (ds.head? = some 0x30 → ds = [0x30])

/-! ## Radix 10: `IsDig` is `IsDigit 10`, `valAcc` is `foldDigits 10` -/

namespace StdInt

theorem decDigit_of_isDig {c : UInt8} (h : IsDig c) : decDigit c = some (c.toNat - 48) := by
  unfold decDigit
  rw [if_pos (by simpa [IsDig] using h)]

theorem decDigit_of_not_isDig {c : UInt8} (h : ¬ IsDig c) : decDigit c = none := by
  unfold decDigit
  rw [if_neg (by simpa [IsDig] using h)]

end StdInt

namespace StdNet

theorem digitVal10_eq (c : UInt8) : digitVal 10 c = StdInt.decDigit c := by
  simp [digitVal, StdInt.decDigit]

theorem isDigit10_iff {c : UInt8} : IsDigit 10 c ↔ IsDig c := by
  rw [IsDigit, digitVal10_eq]
  by_cases h : IsDig c
  · simp [StdInt.decDigit_of_isDig h, h]
  · simp [StdInt.decDigit_of_not_isDig h, h]

theorem dval10_of_isDig {c : UInt8} (h : IsDig c) : dval 10 c = c.toNat - 48 := by
  rw [dval, digitVal10_eq, StdInt.decDigit_of_isDig h]; rfl

theorem stops10_iff {s : B} : Stops 10 s ↔ s = [] ∨ ∃ c r, s = c :: r ∧ ¬ IsDig c := by
  simp only [stops_iff, isDigit10_iff]

theorem stops10_dot (s : B) : Stops 10 (0x2E :: s) := stops_cons (mt isDigit10_iff.mp (by decide)) s

theorem foldDigits10_eq {ds : B} (hds : ∀ c ∈ ds, IsDig c) (acc : Nat) :
    foldDigits 10 ds acc = valAcc acc ds := by
  induction ds generalizing acc with
  | nil => rfl
  | cons c cs ih =>
    have hc := List.forall_mem_cons.mp hds
    rw [foldDigits, valAcc_cons, ih hc.2, dval10_of_isDig hc.1]

end StdNet

/-! ## `dec` -/

namespace StdInt

theorem dec_lt {n : Nat} (h : n < 10) : dec n = [UInt8.ofNat (48 + n)] := by
  rw [dec, if_pos h]

theorem dec_ge {n : Nat} (h : ¬ n < 10) : dec n = dec (n / 10) ++ [UInt8.ofNat (48 + n % 10)] := by
  rw [dec, if_neg h]

theorem dec_zero : dec 0 = [0x30] := by
  rw [dec_lt (by omega)]; rfl

theorem dec_prints : StdNet.Prints 10 (fun d => UInt8.ofNat (48 + d)) dec := by
  refine ⟨by decide, dec_lt, dec_ge, fun {d} hd => ?_⟩
  rw [StdNet.digitVal10_eq, decDigit_of_isDig (isDig_ofNat hd), toNat_ofNat_lt (by omega),
    Nat.add_sub_cancel_left]

theorem dec_isDig (n : Nat) : ∀ c ∈ dec n, IsDig c :=
  fun c hc => StdNet.isDigit10_iff.mp (dec_prints.isDigit n c hc)

theorem dec_ne_nil (n : Nat) : dec n ≠ [] := dec_prints.ne_nil n

theorem dec_length_pos (n : Nat) : 0 < (dec n).length :=
  List.length_pos_iff.mpr (dec_ne_nil n)

theorem dec_length_u16 (n : Nat) (h : n < 65536) : (dec n).length ≤ 5 :=
  dec_prints.length_le 4 n (by omega)

theorem dec_length_u8 (n : Nat) (h : n < 256) : (dec n).length ≤ 3 :=
  dec_prints.length_le 2 n (by omega)

theorem dec_no_leading_zero (n : Nat) : (dec n).head? = some 0x30 → n = 0 := by
  induction n using StdNet.div_induct 10 (by decide) with
  | base n h =>
    rw [dec_lt h]
    intro hh
    have := congrArg UInt8.toNat (Option.some.inj hh)
    rw [toNat_ofNat_lt (show 48 + n < 256 by omega)] at this
    exact Nat.add_left_cancel (k := 0) this
  | step n h ih =>
    rw [dec_ge h, head?_append_ne_nil (dec_ne_nil _)]
    intro hh
    exact absurd (Nat.lt_of_div_eq_zero (by decide) (ih hh)) h

theorem dec_canon (n : Nat) : Canon (dec n) :=
  ⟨dec_ne_nil n, dec_isDig n, fun h => by rw [dec_no_leading_zero n h, dec_zero]⟩

theorem valAcc_dec (n : Nat) : valAcc 0 (dec n) = n := by
  rw [← StdNet.foldDigits10_eq (dec_isDig n)]
  exact dec_prints.foldDigits n

theorem dec_injective {m n : Nat} (h : dec m = dec n) : m = n := by
  rw [← valAcc_dec m, ← valAcc_dec n, h]

/-! ## Canonical text is the `dec` of its value -/

theorem dec_step {acc : Nat} (hacc : 0 < acc) {c : UInt8} (hc : IsDig c) :
    dec (acc * 10 + (c.toNat - 48)) = dec acc ++ [c] := by
  have hd := hc.digit_lt
  rw [dec_ge (Nat.not_lt.mpr (Nat.le_trans (Nat.mul_le_mul_right 10 hacc) (Nat.le_add_right _ _))), Nat.add_comm,
    Nat.add_mul_div_right _ _ (by decide), Nat.add_mul_mod_self_right, Nat.div_eq_of_lt hd,
    Nat.mod_eq_of_lt hd, Nat.zero_add, ofNat_add_sub hc.toNat.1]

theorem dec_valAcc_pos (ds : B) (hds : ∀ c ∈ ds, IsDig c) :
    ∀ acc, 0 < acc → dec (valAcc acc ds) = dec acc ++ ds := by
  induction ds with
  | nil => intro acc _; rw [valAcc_nil, List.append_nil]
  | cons c cs ih =>
    intro acc hacc
    have hc : IsDig c := hds c (List.mem_cons_self ..)
    have hpos : 0 < acc * 10 + (c.toNat - 48) := Nat.add_pos_left (Nat.mul_pos hacc (by decide)) _
    rw [valAcc_cons, ih (fun x hx => hds x (List.mem_cons_of_mem _ hx)) _ hpos, dec_step hacc hc]
    exact List.append_assoc ..

theorem dec_valAcc_of_canon {ds : B} (h : Canon ds) : dec (valAcc 0 ds) = ds := by
  rcases h with ⟨hne, hdig, hz⟩
  cases ds with
  | nil => exact absurd rfl hne
  | cons c cs =>
    have hc : IsDig c := hdig c (List.mem_cons_self ..)
    by_cases h0 : c = 0x30
    · subst h0
      rw [hz rfl]
      exact dec_zero
    · have hpos : 0 < c.toNat - 48 :=
        Nat.sub_pos_of_lt (Nat.lt_of_le_of_ne hc.toNat.1 fun h => h0 (UInt8.toNat_inj.mp h.symm))
      rw [valAcc_cons, Nat.zero_mul, Nat.zero_add,
        dec_valAcc_pos cs (fun x hx => hdig x (List.mem_cons_of_mem _ hx)) _ hpos, dec_lt hc.digit_lt,
        ofNat_add_sub hc.toNat.1]
      rfl

theorem canon_valAcc_iff_dec {ds : B} {n : Nat} : Canon ds ∧ valAcc 0 ds = n ↔ ds = dec n :=
  ⟨fun ⟨hc, hv⟩ => hv ▸ (dec_valAcc_of_canon hc).symm, fun h => h ▸ ⟨dec_canon n, valAcc_dec n⟩⟩

/-- A byte string is canonical decimal text iff it is `dec` of some number. -/
theorem canon_iff_dec {ds : B} : Canon ds ↔ ∃ n, ds = dec n :=
  ⟨fun h => ⟨_, (dec_valAcc_of_canon h).symm⟩, fun ⟨n, h⟩ => h ▸ dec_canon n⟩

end StdInt

theorem Canon.take {ds : B} (h : Canon ds) {k : Nat} (hk : 0 < k) : Canon (ds.take k) := by
  obtain ⟨c, cs, rfl⟩ := List.exists_cons_of_ne_nil h.1
  obtain ⟨k, rfl⟩ := Nat.exists_eq_succ_of_ne_zero (Nat.ne_of_gt hk)
  refine ⟨nofun, fun x hx => h.2.1 x (List.mem_of_mem_take hx), fun hh => ?_⟩
  rw [h.2.2 hh, List.take_succ_cons, List.take_nil]

theorem valAcc_take_le (ds : B) (k : Nat) : valAcc 0 (ds.take k) ≤ valAcc 0 ds := by
  conv => rhs; rw [← List.take_append_drop k ds, valAcc_append]
  exact le_valAcc _ _

/-! ## `u16::from_str` and the port check -/

namespace StdInt

theorem parseDigits_ok {ds : B} {acc n : Nat} (h : parseDigits ds acc = .ok n) :
    (∀ c ∈ ds, IsDig c) ∧ n = valAcc acc ds ∧ (ds = [] ∨ n ≤ 65535) := by
  induction ds generalizing acc with
  | nil =>
    cases h
    exact ⟨List.forall_mem_nil _, rfl, .inl rfl⟩
  | cons c cs ih =>
    by_cases hc : IsDig c
    · simp only [parseDigits, decDigit_of_isDig hc] at h
      rcases ite_eq_cases h with ⟨-, h⟩ | ⟨hle, h⟩
      · cases h
      · rcases ih h with ⟨h1, h2, h3⟩
        refine ⟨List.forall_mem_cons.mpr ⟨hc, h1⟩, by rw [valAcc_cons]; exact h2, Or.inr ?_⟩
        rcases h3 with rfl | h3
        · rw [h2]; exact Nat.not_lt.mp hle
        · exact h3
    · simp only [parseDigits, decDigit_of_not_isDig hc] at h
      cases h

/-- Through digits whose value stays within range the loop only accumulates. -/
theorem parseDigits_append {ds : B} (hds : ∀ c ∈ ds, IsDig c) (r : B) {acc : Nat}
    (hle : valAcc acc ds ≤ 65535) : parseDigits (ds ++ r) acc = parseDigits r (valAcc acc ds) := by
  induction ds generalizing acc with
  | nil => rfl
  | cons c cs ih =>
    have hc := List.forall_mem_cons.mp hds
    rw [valAcc_cons] at hle ⊢
    simp only [List.cons_append, parseDigits, decDigit_of_isDig hc.1]
    rw [if_neg (Nat.not_lt.mpr (Nat.le_trans (le_valAcc _ cs) hle))]
    exact ih hc.2 hle

theorem parseDigits_of_digits {ds : B} (hds : ∀ c ∈ ds, IsDig c) {acc : Nat}
    (hle : valAcc acc ds ≤ 65535) : parseDigits ds acc = .ok (valAcc acc ds) := by
  have := parseDigits_append hds [] hle
  rwa [List.append_nil] at this

/-- Digits only, value beyond `u16::MAX`: `PosOverflow` — whatever follows the digits. -/
theorem parseDigits_overflow {ds : B} (hds : ∀ c ∈ ds, IsDig c) (r : B) {acc : Nat} (hacc : acc ≤ 65535)
    (hgt : 65535 < valAcc acc ds) : parseDigits (ds ++ r) acc = .error .posOverflow := by
  induction ds generalizing acc with
  | nil => exact absurd hgt (Nat.not_lt.mpr hacc)
  | cons c cs ih =>
    have hc : IsDig c := hds c (List.mem_cons_self ..)
    rw [valAcc_cons] at hgt
    simp only [List.cons_append, parseDigits, decDigit_of_isDig hc]
    split
    · rfl
    next h => exact ih (fun x hx => hds x (List.mem_cons_of_mem _ hx)) (Nat.not_lt.mp h) hgt

/-- Digits of a value within range followed by a byte that is not a digit: `InvalidDigit`. -/
theorem parseDigits_invalid {ds : B} (hds : ∀ c ∈ ds, IsDig c) {c : UInt8} (hc : ¬ IsDig c) (r : B)
    {acc : Nat} (hle : valAcc acc ds ≤ 65535) :
    parseDigits (ds ++ c :: r) acc = .error .invalidDigit := by
  rw [parseDigits_append hds _ hle, parseDigits, decDigit_of_not_isDig hc]

/-- Without a leading `+`, `u16::from_str` is the digit loop: the lone `-` it refuses first is no
digit either. -/
theorem parseU16_cons {c : UInt8} (hc : c ≠ 0x2B) (rest : B) :
    parseU16 (c :: rest) = parseDigits (c :: rest) 0 := by
  -- `==` on bytes is `decide (_ = _)`
  have h1 : (c == 0x2B) = false := decide_eq_false hc
  cases rest with
  | nil =>
    by_cases h2 : c = 0x2D
    · subst h2; rfl
    · have h2 : (c == 0x2D) = false := decide_eq_false h2
      simp only [parseU16, h1, h2, Bool.or_self, Bool.false_eq_true, if_false]
  | cons d rest' => simp only [parseU16, h1, Bool.false_eq_true, if_false]

end StdInt

namespace V1

/-- The two checks before `u16::from_str` pass: no leading `+`, and a leading `0` is the whole text. -/
theorem portChecks_iff (s : B) :
    ¬ (s.head? == some 0x2B || (s.head? == some 0x30 && s ≠ [0x30])) = true ↔
      s.head? ≠ some 0x2B ∧ (s.head? = some 0x30 → s = [0x30]) := by
  simp only [Bool.or_eq_true, Bool.and_eq_true, beq_iff_eq, decide_eq_true_eq, not_or, not_and,
    Decidable.not_not]

theorem parsePort_iff_canon (s : B) (p : UInt16) :
    parsePort s = .ok p ↔ Canon s ∧ valAcc 0 s = p.toNat := by
  constructor
  · fun_cases parsePort s
    case case3 hcond n hn =>
      rintro ⟨⟩
      rw [portChecks_iff] at hcond
      match s, hcond, hn with
      | c :: rest, hcond, hn =>
        rw [StdInt.parseU16_cons fun e => hcond.1 (congrArg some e)] at hn
        obtain ⟨hdig, rfl, hle⟩ := StdInt.parseDigits_ok hn
        refine ⟨⟨nofun, hdig, hcond.2⟩, ?_⟩
        rw [UInt16.toNat_ofNat', Nat.mod_eq_of_lt (Nat.lt_succ_of_le (hle.resolve_left nofun))]
    all_goals nofun
  · rintro ⟨⟨hne, hdig, hz⟩, hv⟩
    match s, hne with
    | c :: rest, _ =>
      have hc : IsDig c := hdig c (List.mem_cons_self ..)
      have hplus : c ≠ 0x2B := by rintro rfl; exact absurd hc (by decide)
      unfold parsePort
      rw [if_neg ((portChecks_iff (c :: rest)).mpr ⟨fun e => hplus (Option.some.inj e), hz⟩), StdInt.parseU16_cons hplus,
        StdInt.parseDigits_of_digits hdig (by rw [hv]; exact Nat.le_of_lt_succ p.toNat_lt), hv]
      simp

theorem parsePort_iff (s : B) (p : UInt16) : parsePort s = .ok p ↔ s = StdInt.dec p.toNat :=
  (parsePort_iff_canon s p).trans StdInt.canon_valAcc_iff_dec

/-- The first two checks of the port parser pass on text that starts with a digit other than
`0`: an error of the digit loop is reported as it is. -/
theorem parsePort_of_head_isDig {c : UInt8} (hc : IsDig c) (h0 : c ≠ 0x30) (rest : B)
    {k : StdInt.IntErrorKind} (hk : StdInt.parseDigits (c :: rest) 0 = .error k) :
    parsePort (c :: rest) = .error (some k) := by
  have hp : c ≠ 0x2B := by rintro rfl; exact absurd hc (by decide)
  unfold parsePort
  rw [if_neg ((portChecks_iff (c :: rest)).mpr
    ⟨fun e => hp (Option.some.inj e), fun e => absurd (Option.some.inj e) h0⟩), StdInt.parseU16_cons hp, hk]

/-- The empty port text: `Some(Empty)`. -/
theorem parsePort_nil : parsePort [] = .error (some .empty) := by decide

/-- A leading `+`: rejected before `u16::from_str` (`None`). -/
theorem parsePort_plus (s : B) : parsePort (0x2B :: s) = .error none :=
  if_pos rfl

/-- A leading zero followed by anything: `None`. -/
theorem parsePort_leading_zero {s : B} (hs : s ≠ []) : parsePort (0x30 :: s) = .error none := by
  simp [parsePort, hs]

/-- A first byte that is neither a digit nor `+` (e.g. `-`): `Some(InvalidDigit)`. -/
theorem parsePort_head_invalid {c : UInt8} (hc : ¬ IsDig c) (hp : c ≠ 0x2B) (s : B) :
    parsePort (c :: s) = .error (some .invalidDigit) := by
  have h0 : c ≠ 0x30 := by intro h; exact hc (by rw [h]; decide)
  have h : StdInt.parseU16 (c :: s) = .error .invalidDigit := by
    rw [StdInt.parseU16_cons hp, StdInt.parseDigits, StdInt.decDigit_of_not_isDig hc]
  unfold parsePort
  rw [if_neg ((portChecks_iff (c :: s)).mpr
    ⟨fun e => hp (Option.some.inj e), fun e => absurd (Option.some.inj e) h0⟩), h]

/-- A leading `-`: `Some(InvalidDigit)`. -/
theorem parsePort_minus (s : B) : parsePort (0x2D :: s) = .error (some .invalidDigit) :=
  parsePort_head_invalid (by decide) (by decide) s

theorem parsePort_prefix (p : UInt16) (k : Nat) (hk : 0 < k) :
    ∃ q, parsePort ((StdInt.dec p.toNat).take k) = .ok q := by
  have hle := valAcc_take_le (StdInt.dec p.toNat) k
  rw [StdInt.valAcc_dec] at hle
  refine ⟨UInt16.ofNat (valAcc 0 ((StdInt.dec p.toNat).take k)),
    (parsePort_iff_canon _ _).mpr ⟨(StdInt.dec_canon _).take hk, ?_⟩⟩
  rw [UInt16.toNat_ofNat', Nat.mod_eq_of_lt (Nat.lt_of_le_of_lt hle p.toNat_lt)]

end V1

/-! ## `Ipv4Addr::from_str` -/

namespace StdNet

/-- `readOctet` consumes exactly the canonical text of a value below 256, and stops at the end or
at a non-digit. -/
theorem readOctet_iff {s : B} {v : Nat} {rest : B} :
    readOctet s = some (v, rest) ↔ v < 256 ∧ s = StdInt.dec v ++ rest ∧ Stops 10 rest := by
  unfold readOctet
  rw [readNumber_iff]
  simp only [isDigit10_iff]
  constructor
  · rintro ⟨ds, rfl, hne, hm, hds, hst, hz, rfl, hlt⟩
    rw [foldDigits10_eq hds] at hlt ⊢
    exact ⟨hlt, by rw [StdInt.dec_valAcc_of_canon ⟨hne, hds, hz trivial⟩], hst⟩
  · rintro ⟨hlt, rfl, hst⟩
    obtain ⟨hne, hds, hz⟩ := StdInt.dec_canon v
    exact ⟨_, rfl, hne, StdInt.dec_length_u8 v hlt, hds, hst, fun _ => hz, StdInt.dec_prints.foldDigits v, hlt⟩

theorem readOctet_dec (n : Nat) (h : n < 256) (rest : B)
    (hrest : rest = [] ∨ ∃ c r, rest = c :: r ∧ ¬(0x30 ≤ c ∧ c ≤ 0x39)) :
    readOctet (StdInt.dec n ++ rest) = some (n, rest) :=
  readOctet_iff.mpr ⟨h, rfl, stops10_iff.mpr hrest⟩

theorem displayIpv4_eq (a : Ip4) (rest : B) :
    displayIpv4 a ++ rest =
      StdInt.dec a.a.toNat ++ (0x2E :: (StdInt.dec a.b.toNat ++ (0x2E :: (StdInt.dec a.c.toNat ++
        (0x2E :: (StdInt.dec a.d.toNat ++ rest)))))) := by
  simp only [displayIpv4, List.append_assoc, List.cons_append, List.nil_append]

/-- `readIpv4` consumes exactly the `Display` text of the result, and stops at the end or at a
non-digit. -/
theorem readIpv4_iff {s : B} {a : Ip4} {rest : B} :
    readIpv4 s = some (a, rest) ↔ s = displayIpv4 a ++ rest ∧ Stops 10 rest := by
  constructor
  · fun_cases readIpv4 s
    -- the path on which all four slots of the loop are read; on the others nothing is returned
    case case5 va s1 h1 vb s2 h2 vc s3 h3 vd s4 h4 =>
      rintro ⟨⟩
      rw [readSeparator_zero] at h1
      obtain ⟨la, rfl, -⟩ := readOctet_iff.mp h1
      obtain ⟨t2, rfl, h2'⟩ := readSeparator_succ_some h2
      obtain ⟨lb, rfl, -⟩ := readOctet_iff.mp h2'
      obtain ⟨t3, rfl, h3'⟩ := readSeparator_succ_some h3
      obtain ⟨lc, rfl, -⟩ := readOctet_iff.mp h3'
      obtain ⟨t4, rfl, h4'⟩ := readSeparator_succ_some h4
      obtain ⟨ld, rfl, hr⟩ := readOctet_iff.mp h4'
      refine ⟨?_, hr⟩
      rw [displayIpv4_eq]
      simp only [toNat_ofNat_lt, la, lb, lc, ld]
    all_goals nofun
  · rintro ⟨rfl, hrest⟩
    rw [displayIpv4_eq]
    unfold readIpv4
    rw [readSeparator_zero, readOctet_iff.mpr ⟨a.a.toNat_lt, rfl, stops10_dot _⟩]
    simp only
    rw [readSeparator_succ_cons, readOctet_iff.mpr ⟨a.b.toNat_lt, rfl, stops10_dot _⟩]
    simp only
    rw [readSeparator_succ_cons, readOctet_iff.mpr ⟨a.c.toNat_lt, rfl, stops10_dot _⟩]
    simp only
    rw [readSeparator_succ_cons, readOctet_iff.mpr ⟨a.d.toNat_lt, rfl, hrest⟩]
    simp only [UInt8.ofNat_toNat]

theorem readIpv4_display (a : Ip4) (rest : B)
    (hrest : rest = [] ∨ ∃ c r, rest = c :: r ∧ ¬(0x30 ≤ c ∧ c ≤ 0x39)) :
    readIpv4 (displayIpv4 a ++ rest) = some (a, rest) :=
  readIpv4_iff.mpr ⟨rfl, stops10_iff.mpr hrest⟩

theorem displayIpv4_charset (a : Ip4) : ∀ c ∈ displayIpv4 a, (0x30 ≤ c ∧ c ≤ 0x39) ∨ c = 0x2E := by
  have dig (n : Nat) : ∀ c ∈ StdInt.dec n, (0x30 ≤ c ∧ c ≤ 0x39) ∨ c = 0x2E :=
    fun c hc => .inl (StdInt.dec_isDig n c hc)
  have dot : ∀ c ∈ [(0x2E : UInt8)], (0x30 ≤ c ∧ c ≤ 0x39) ∨ c = 0x2E :=
    fun c hc => .inr (List.mem_singleton.mp hc)
  simp only [displayIpv4, List.forall_mem_append]
  exact ⟨⟨⟨⟨⟨⟨dig _, dot⟩, dig _⟩, dot⟩, dig _⟩, dot⟩, dig _⟩

theorem displayIpv4_length (a : Ip4) : 7 ≤ (displayIpv4 a).length ∧ (displayIpv4 a).length ≤ 15 := by
  have := StdInt.dec_length_u8 _ a.a.toNat_lt
  have := StdInt.dec_length_u8 _ a.b.toNat_lt
  have := StdInt.dec_length_u8 _ a.c.toNat_lt
  have := StdInt.dec_length_u8 _ a.d.toNat_lt
  have := StdInt.dec_length_pos a.a.toNat
  have := StdInt.dec_length_pos a.b.toNat
  have := StdInt.dec_length_pos a.c.toNat
  have := StdInt.dec_length_pos a.d.toNat
  simp only [displayIpv4, List.length_append, List.length_singleton]
  omega

theorem parseIpv4_iff (s : B) (a : Ip4) : parseIpv4 s = some a ↔ s = displayIpv4 a := by
  constructor
  · fun_cases parseIpv4 s
    case case2 _ a' hr => rintro ⟨⟩; simpa using (readIpv4_iff.mp hr).1
    all_goals nofun
  · rintro rfl
    unfold parseIpv4
    rw [if_neg (Nat.not_lt.mpr (displayIpv4_length a).2),
      readIpv4_iff.mpr ⟨(List.append_nil _).symm, stops_nil 10⟩]

theorem displayIpv4_injective {a b : Ip4} (h : displayIpv4 a = displayIpv4 b) : a = b :=
  Option.some.inj (((parseIpv4_iff _ a).mpr rfl).symm.trans ((parseIpv4_iff _ b).mpr h))

end StdNet

/-! ## Prefixes of decimal text -/

namespace StdInt

/-- Dropping the last `j` digits of `n` divides by `10^j`. -/
theorem dec_take (j : Nat) : ∀ n, j < (dec n).length →
    (dec n).take ((dec n).length - j) = dec (n / 10 ^ j) := by
  induction j with
  | zero => intro n _; simp
  | succ j ih =>
    intro n hj
    by_cases h : n < 10
    · rw [dec_lt h] at hj; simp at hj
    · rw [dec_ge h] at hj ⊢
      simp only [List.length_append, List.length_singleton] at hj ⊢
      rw [Nat.add_sub_add_right, List.take_append_of_le_length (Nat.sub_le _ _),
        ih _ (Nat.lt_of_succ_lt_succ hj), Nat.div_div_eq_div_mul, Nat.pow_succ, Nat.mul_comm]

end StdInt
