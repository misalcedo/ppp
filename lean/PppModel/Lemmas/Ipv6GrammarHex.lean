import PppModel.Std.Ipv6
import PppModel.Spec.V1
import PppModel.Lemmas.Ipv4Port

/-!
# Hexadecimal groups: the grammar's `HexGroup` (`Spec.V1`) is what the parser's digit loop reads
at radix 16 and what `hexLower` prints
-/

namespace StdNet

/-! ## hexadecimal digits -/

theorem digitVal16_eq (c : UInt8) : digitVal 16 c = Spec.V1.hexDigitValue c := by
  unfold digitVal Spec.V1.hexDigitValue
  simp only [Bool.and_eq_true, decide_eq_true_eq, BEq.rfl, if_true]

/-- Hexadecimal digit, either case: `IsDigit 16`, unfolded. -/
def IsHex (c : UInt8) : Prop := digitVal 16 c ≠ none

/-- A hexadecimal digit has a value below 16 and lies between `0` and `f`. -/
theorem digitVal16_some {c : UInt8} {d : Nat} (h : digitVal 16 c = some d) :
    d < 16 ∧ 0x30 ≤ c.toNat ∧ c.toNat ≤ 0x66 := by
  rw [digitVal16_eq] at h
  unfold Spec.V1.hexDigitValue at h
  simp only [UInt8.le_iff_toNat_le, UInt8.reduceToNat] at h
  rcases ite_eq_cases h with ⟨hc, h⟩ | ⟨-, h⟩
  · cases h
    exact ⟨Nat.lt_of_le_of_lt (Nat.sub_le_sub_right hc.2 _) (by decide), hc.1, Nat.le_trans hc.2 (by decide)⟩
  rcases ite_eq_cases h with ⟨hc, h⟩ | ⟨-, h⟩
  · cases h
    exact ⟨Nat.add_lt_of_lt_sub (Nat.lt_of_le_of_lt (Nat.sub_le_sub_right hc.2 _) (by decide)),
      Nat.le_trans (by decide) hc.1, hc.2⟩
  rcases ite_eq_cases h with ⟨hc, h⟩ | ⟨-, h⟩
  · cases h
    exact ⟨Nat.add_lt_of_lt_sub (Nat.lt_of_le_of_lt (Nat.sub_le_sub_right hc.2 _) (by decide)),
      Nat.le_trans (by decide) hc.1, Nat.le_trans hc.2 (by decide)⟩
  · cases h

theorem dval16_lt (c : UInt8) : dval 16 c < 16 := by
  unfold dval
  cases hd : digitVal 16 c with
  | none => decide
  | some d => exact (digitVal16_some hd).1

theorem isHex_of_isDig {c : UInt8} (h : IsDig c) : IsHex c := by
  unfold IsHex digitVal
  rw [if_pos (by simpa [IsDig] using h)]
  simp

theorem not_isHex_colon : ¬ IsHex 0x3A := not_isDigit_colon 16
theorem not_isHex_dot : ¬ IsHex 0x2E := by unfold IsHex; decide

/-! ## the bytes of an address text -/

/-- Bytes that can occur in the text of an address of either family. -/
def AddrByte (c : UInt8) : Prop := IsHex c ∨ c = 0x3A ∨ c = 0x2E

theorem addrByte_toNat {c : UInt8} (h : AddrByte c) : 0x2E ≤ c.toNat ∧ c.toNat ≤ 0x66 := by
  rcases h with h | rfl | rfl
  · have := (digitVal16_some (digitVal_of_isDigit h)).2; omega
  · decide
  · decide

theorem dec_bytes (n : Nat) : ∀ c ∈ StdInt.dec n, AddrByte c :=
  fun c hc => .inl (isHex_of_isDig (StdInt.dec_isDig n c hc))

theorem displayIpv4_bytes (a : Ip4) : ∀ c ∈ displayIpv4 a, AddrByte c := fun c hc =>
  (displayIpv4_charset a c hc).elim (fun h => .inl (isHex_of_isDig h)) (fun h => .inr (.inr h))

/-! ## hexadecimal groups -/

theorem foldDigits16_lt (ds : B) (acc : Nat) : foldDigits 16 ds acc < (acc + 1) * 16 ^ ds.length := by
  induction ds generalizing acc with
  | nil => simp [foldDigits]
  | cons c cs ih =>
    have h2 := dval16_lt c
    simp only [foldDigits, List.length_cons, Nat.pow_succ]
    rw [Nat.mul_comm (16 ^ cs.length) 16, ← Nat.mul_assoc]
    exact Nat.lt_of_lt_of_le (ih _) (Nat.mul_le_mul_right _ (by omega))

theorem stops16_iff (s : B) : Stops 16 s ↔ s = [] ∨ ∃ c r, s = c :: r ∧ ¬ IsHex c :=
  stops_iff

/-! ## `HexGroup` -/

theorem foldl_hex_map (ds : B) (acc : Nat) :
    (ds.map (dval 16)).foldl (fun acc d => acc * 16 + d) acc = foldDigits 16 ds acc := by
  induction ds generalizing acc with
  | nil => rfl
  | cons c cs ih => simp only [List.map_cons, List.foldl_cons, foldDigits]; exact ih _

/-- The grammar's hex group in terms of the digit predicate and value used here. -/
theorem hexGroup_iff (s : B) (g : Nat) :
    Spec.V1.HexGroup s g ↔ 1 ≤ s.length ∧ s.length ≤ 4 ∧ (∀ c ∈ s, IsHex c) ∧ foldDigits 16 s 0 = g := by
  unfold Spec.V1.HexGroup
  constructor
  · rintro ⟨h1, h2, ds, hmap, hval⟩
    have hds : ds = s.map (dval 16) := by
      have e : (fun c => (Spec.V1.hexDigitValue c).getD 0) = dval 16 :=
        funext fun c => by rw [dval, digitVal16_eq]
      have := congrArg (List.map (·.getD 0)) hmap
      simpa [List.map_map, Function.comp_def, e] using this.symm
    have hhex : ∀ c ∈ s, IsHex c := by
      intro c hc
      have : Spec.V1.hexDigitValue c ∈ ds.map some := hmap ▸ List.mem_map_of_mem hc
      obtain ⟨d, -, hd⟩ := List.mem_map.mp this
      rw [IsHex, digitVal16_eq, ← hd]
      simp
    refine ⟨h1, h2, hhex, ?_⟩
    rw [← hval, hds, foldl_hex_map]
  · rintro ⟨h1, h2, h3, h4⟩
    refine ⟨h1, h2, s.map (dval 16), ?_, ?_⟩
    · rw [List.map_map]
      apply List.map_congr_left
      intro c hc
      rw [← digitVal16_eq, digitVal_of_isDigit (h3 c hc)]; rfl
    · rw [foldl_hex_map, h4]

theorem hexGroup_lt {s : B} {g : Nat} (h : Spec.V1.HexGroup s g) : g < 65536 := by
  rcases (hexGroup_iff s g).mp h with ⟨_, h2, _, h4⟩
  have := foldDigits16_lt s 0
  rw [h4, Nat.zero_add, Nat.one_mul] at this
  exact Nat.lt_of_lt_of_le this (Nat.pow_le_pow_right (by decide) h2 : 16 ^ s.length ≤ 16 ^ 4)

theorem hexGroup_isHex {s : B} {g : Nat} (h : Spec.V1.HexGroup s g) : ∀ c ∈ s, IsHex c :=
  ((hexGroup_iff s g).mp h).2.2.1

theorem hexGroup_ne_nil {s : B} {g : Nat} (h : Spec.V1.HexGroup s g) : s ≠ [] := by
  intro e; subst e
  have := ((hexGroup_iff _ g).mp h).1
  simp at this

theorem readHex16_iff (s : B) (g : Nat) (rest : B) :
    readHex16 s = some (g, rest) ↔ ∃ ds, s = ds ++ rest ∧ Spec.V1.HexGroup ds g ∧ Stops 16 rest := by
  unfold readHex16
  rw [readNumber_iff]
  constructor
  · rintro ⟨ds, rfl, hne, hm, hds, hst, -, rfl, -⟩
    exact ⟨ds, rfl, (hexGroup_iff _ _).mpr ⟨List.length_pos_iff.mpr hne, hm, hds, rfl⟩, hst⟩
  · rintro ⟨ds, rfl, hg, hst⟩
    obtain ⟨h1, h2, h3, h4⟩ := (hexGroup_iff _ _).mp hg
    exact ⟨ds, rfl, List.length_pos_iff.mp h1, h2, h3, hst, nofun, h4, hexGroup_lt hg⟩

/-! ## `hexLower g` is a hex group -/

theorem hexLower_lt {n : Nat} (h : n < 16) : hexLower n = [hexLowerDigit n] := by
  rw [hexLower.eq_1, if_pos h]

theorem hexLower_ge {n : Nat} (h : ¬ n < 16) :
    hexLower n = hexLower (n / 16) ++ [hexLowerDigit (n % 16)] := by
  rw [hexLower.eq_1, if_neg h]

theorem digitVal16_hexLowerDigit (d : Nat) (h : d < 16) : digitVal 16 (hexLowerDigit d) = some d := by
  have : ∀ d : Fin 16, digitVal 16 (hexLowerDigit d.val) = some d.val := by decide
  exact this ⟨d, h⟩

theorem hexLower_prints : Prints 16 hexLowerDigit hexLower :=
  ⟨by decide, hexLower_lt, hexLower_ge, digitVal16_hexLowerDigit _⟩

theorem hexLower_length_u16 (n : Nat) (h : n < 65536) : (hexLower n).length ≤ 4 :=
  hexLower_prints.length_le 3 n h

theorem hexGroup_hexLower {g : Nat} (h : g < 65536) : Spec.V1.HexGroup (hexLower g) g :=
  (hexGroup_iff _ _).mpr
    ⟨List.length_pos_iff.mpr (hexLower_prints.ne_nil g), hexLower_length_u16 g h, hexLower_prints.isDigit g,
      hexLower_prints.foldDigits g⟩

end StdNet
