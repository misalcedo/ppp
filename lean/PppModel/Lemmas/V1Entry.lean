import PppModel.Lemmas.V1Accept
import PppModel.Lemmas.V1Window

/-!
# The v1 entry points on accepted inputs

`parseBytes` / `parseStr` run `parse_header` on the window `x.take n`
(`windowLength x = some n`), which is a window in the sense of `V1.IsWindow`; so the two halves of
`parseHeader_ok_iff` apply: an accepted header (`accepted_core`) is a well-formed line, is the input
up to and including the byte after the input's *first* CR, and starts with `PROXY `; and an input
that begins with a well-formed line of at most 107 bytes is accepted (`parseX_of_line`).
-/

namespace V1

/-- An address line is `PROXY␠` and a remainder that holds at least the protocol, four
separators and the line ending. -/
theorem tcpLine_tail (K sa da sp dp e : B) :
    ∃ r, Blame.tcpLine PROXY K sa da sp dp e = (PROXY ++ [SP]) ++ r ∧
      K.length + 4 + e.length ≤ r.length :=
  ⟨joinSP [K, sa, da, sp] (dp ++ e), (tcpLine_eq_joinSP ..).trans (List.append_cons ..),
    by simp only [joinSP, List.length_append, List.length_cons]; omega⟩

/-- Every well-formed line has at least 15 bytes (`PROXY UNKNOWN\r\n`) and starts with `PROXY `. -/
theorem line_prefix {w : B} {addr : Addresses} (hl : Spec.V1.Line ip6Model w addr) :
    15 ≤ w.length ∧ w.take 6 = PROXY ++ [SP] := by
  obtain ⟨r, rfl, hr⟩ : ∃ r, w = (PROXY ++ [SP]) ++ r ∧ 9 ≤ r.length := by
    cases hl with
    | unknown tail h1 h2 =>
      exact ⟨UNKNOWN ++ (tail ++ [CR, LF]), (List.append_assoc ..).trans (List.append_assoc ..),
        by rw [List.length_append, List.length_append]; exact Nat.add_le_add_left (Nat.le_add_left 2 _) 7⟩
    | tcp4 sa da sp dp a b p q hsa hda hsp hdp =>
      obtain ⟨r, e, hr⟩ := tcpLine_tail TCP4 sa da sp dp [CR, LF]
      exact ⟨r, e, Nat.le_trans (by decide) hr⟩
    | tcp6 sa da sp dp a b p q hsa hda hsp hdp =>
      obtain ⟨r, e, hr⟩ := tcpLine_tail TCP6 sa da sp dp [CR, LF]
      exact ⟨r, e, Nat.le_trans (by decide) hr⟩
  exact ⟨by rw [List.length_append]; exact Nat.le_trans (by decide) (Nat.add_le_add_left hr 6),
    List.take_left' rfl⟩

/-- An address line with the protocol keyword set apart: a space and the four fields lie
between it and CR LF. -/
theorem tcp_between (K sa da sp dp : B) :
    PROXY ++ [SP] ++ K ++ [SP] ++ sa ++ [SP] ++ da ++ [SP] ++ sp ++ [SP] ++ dp ++ CRLF =
      PROXY ++ [SP] ++ K ++ SP :: (sa ++ [SP] ++ da ++ [SP] ++ sp ++ [SP] ++ dp) ++ CRLF := by
  rw [List.append_cons _ SP (_ ++ dp)]
  simp only [← List.append_assoc]

/-- A well-formed header is `PROXY`, a space, *its own* protocol keyword, then either
nothing (only after `UNKNOWN`) or a space and more text, then CR LF. -/
theorem header_shape (h : Header) (hl : Spec.V1.Line ip6Model h.header h.addresses) :
    ∃ between, h.header = PROXY ++ [SP] ++ h.protocol ++ between ++ CRLF ∧
      (between = [] ∨ ∃ text, between = SP :: text) ∧ (h.addresses ≠ .unknown → between ≠ []) := by
  obtain ⟨hd, ad⟩ := h
  simp only at hl
  cases hl with
  | unknown tail h1 h2 =>
    refine ⟨tail, rfl, h1.imp_right fun ht => ?_, fun hne => absurd rfl hne⟩
    cases tail with
    | nil => cases ht
    | cons c t => cases ht; exact ⟨t, rfl⟩
  | tcp4 sa da sp dp a b p q hsa hda hsp hdp =>
    exact ⟨_, tcp_between TCP4 sa da sp dp, .inr ⟨_, rfl⟩, fun _ => List.cons_ne_nil _ _⟩
  | tcp6 sa da sp dp a b p q hsa hda hsp hdp =>
    exact ⟨_, tcp_between TCP6 sa da sp dp, .inr ⟨_, rfl⟩, fun _ => List.cons_ne_nil _ _⟩

/-- The window of an input that begins with a well-formed line is that line. -/
theorem window_of_line {hdr rest : B} {addr : Addresses} (hl : Spec.V1.Line ip6Model hdr addr) :
    windowLength (hdr ++ rest) = some hdr.length ∧ (hdr ++ rest).take hdr.length = hdr := by
  obtain ⟨body, hb, rfl⟩ := line_shape hl
  exact window_line LF rest hb

/-- Where the first CR of an input that begins with a well-formed line is. -/
theorem line_firstCR {hdr rest : B} {addr : Addresses} (hl : Spec.V1.Line ip6Model hdr addr) :
    ∃ c, firstCR (hdr ++ rest) = some c ∧ hdr.length = c + 2 := by
  obtain ⟨body, hb, rfl⟩ := line_shape hl
  exact ⟨body.length, firstCR_append_of_some rest (firstCR_append_cr [LF] hb), by simp⟩

/-- What `parse_header` accepting the window of `x` means. -/
theorem accepted_core {x : B} {n : Nat} {h : Header} (hw : windowLength x = some n)
    (hp : parseHeader (x.take n) = .ok h) :
    h.header = x.take n ∧ x = h.header ++ x.drop n ∧ h.header.length ≤ 107 ∧
      Spec.V1.Line ip6Model h.header h.addresses := by
  obtain ⟨h1, h2, h3⟩ := line_of_parseHeader_ok (window_is_window hw) hp
  exact ⟨h1, by rw [h1, List.take_append_drop], h1 ▸ h2, h1 ▸ h3⟩

/-- The facts about an input that begins with a well-formed line. -/
theorem line_facts {hdr rest : B} {addr : Addresses} (hl : Spec.V1.Line ip6Model hdr addr) :
    hdr <+: hdr ++ rest ∧ CRLF.isSuffixOf hdr = true ∧
      firstCR (hdr ++ rest) = some (hdr.length - 2) ∧ 15 ≤ hdr.length ∧ hdr.take 6 = PROXY ++ [SP] := by
  obtain ⟨c, hcr, hc⟩ := line_firstCR (rest := rest) hl
  obtain ⟨body, -, e⟩ := line_shape hl
  exact ⟨List.prefix_append _ _, (isSuffixOf_CRLF_iff _).mpr ⟨body, e⟩, by rw [hcr, hc]; rfl,
    line_prefix hl⟩

/-! ## What an accepting entry point accepted -/

/-- An input accepted through `TryFrom<&[u8]>` begins with the header reported, which is valid
UTF-8, at most 107 bytes long and a well-formed line denoting the addresses reported. -/
theorem parseBytes_ok_line {x : B} {h : Header} (hp : parseBytes x = .ok h) :
    ∃ rest, x = h.header ++ rest ∧ h.header.length ≤ 107 ∧ Utf8.valid h.header = true ∧
      Spec.V1.Line ip6Model h.header h.addresses := by
  obtain ⟨n, hw, hv, hp⟩ := (parseBytes_ok_iff_window x h).mp hp
  obtain ⟨h1, h3, h4, h5⟩ := accepted_core hw hp
  exact ⟨x.drop n, h3, h4, h1 ▸ hv, h5⟩

/-- The same through `TryFrom<&str>`; nothing about UTF-8 is needed. -/
theorem parseStr_ok_line {x : B} {h : Header} (hp : parseStr x = .ok h) :
    ∃ rest, x = h.header ++ rest ∧ h.header.length ≤ 107 ∧
      Spec.V1.Line ip6Model h.header h.addresses := by
  obtain ⟨n, hw, -, hp⟩ := (parseStr_ok_iff_window x h).mp hp
  obtain ⟨-, h3, h4, h5⟩ := accepted_core hw hp
  exact ⟨x.drop n, h3, h4, h5⟩

/-! ## An input that begins with a well-formed line is accepted -/

theorem parseBytes_of_line {hdr rest : B} {addr : Addresses} (hl : Spec.V1.Line ip6Model hdr addr)
    (hlen : hdr.length ≤ 107) (hv : Utf8.valid hdr = true) :
    parseBytes (hdr ++ rest) = .ok { header := hdr, addresses := addr } := by
  obtain ⟨hw, ht⟩ := window_of_line (rest := rest) hl
  rw [parseBytes_of_window hw, ht, hv, parseHeader_ok_of_line hlen hl]
  rfl

/-- The text entry point asks only that the line end on a character boundary of the input. -/
theorem parseStr_of_line {hdr rest : B} {addr : Addresses} (hl : Spec.V1.Line ip6Model hdr addr)
    (hlen : hdr.length ≤ 107) (hb : Utf8.isCharBoundary (hdr ++ rest) hdr.length = true) :
    parseStr (hdr ++ rest) = .ok { header := hdr, addresses := addr } := by
  obtain ⟨hw, ht⟩ := window_of_line (rest := rest) hl
  rw [parseStr_of_window hw, hb, ht]
  exact parseHeader_ok_of_line hlen hl

/-- The line ends with LF, an ASCII byte, so its end is a character boundary of the
valid string that contains it. -/
theorem boundary_after_line {hdr rest : B} {addr : Addresses}
    (hl : Spec.V1.Line ip6Model hdr addr) (hx : Utf8.valid (hdr ++ rest) = true) :
    Utf8.isCharBoundary (hdr ++ rest) hdr.length = true := by
  obtain ⟨body, -, rfl⟩ := line_shape hl
  have e : body ++ [CR, LF] ++ rest = (body ++ [CR]) ++ LF :: rest := by simp
  have hlen : (body ++ [CR, LF]).length = (body ++ [CR]).length + 1 := by simp
  rw [e, hlen]
  rw [e] at hx
  exact Utf8.boundary_after_ascii (body ++ [CR]) LF rest (by decide) hx

/-- The header text returned by `parseStr` on a `&str` is valid UTF-8: it is the prefix
of the input up to a char boundary. -/
theorem parseStr_ok_valid {x : B} {h : Header} (hx : Utf8.valid x = true) (hp : parseStr x = .ok h) :
    Utf8.valid h.header = true := by
  obtain ⟨rest, rfl, -, hl⟩ := parseStr_ok_line hp
  have := Utf8.valid_take_iff_boundary _ hx h.header.length (by simp)
  rwa [List.take_left' rfl, boundary_after_line hl hx] at this

/-- An input accepted by the v1 bytes entry point starts with `PROXY␠`. -/
theorem parseBytes_ok_take6 {x : B} {h : Header} (hp : parseBytes x = .ok h) :
    x.take 6 = PROXY ++ [SP] := by
  obtain ⟨rest, hx, -, -, hl⟩ := parseBytes_ok_line hp
  obtain ⟨h15, h6⟩ := line_prefix hl
  rw [hx, List.take_append_of_le_length (Nat.le_trans (by decide) h15)]; exact h6

end V1
