import PppModel.Lemmas.V1Window

/-!
# Blame: one corrupted element of a complete v1 line gives the terminal error naming it

A complete TCP line is `kw SP proto SP sa SP da SP sp SP dp CR LF`.  If exactly
one of the elements is wrong (and the corruption does not introduce a separator),
`parse_header` — and with it both entry points — fails with a *terminal* error
whose kind names that element (G1–G7); over-long and non-UTF-8 windows are
reported as such (G8, G9; at the text entry point the counterpart of a non-UTF-8 window is one
that does not end on a character boundary, `G9_not_boundary`); all these errors are terminal
(G10); G11 carries a verdict of `parse_header` on a line over to `parseBytes` / `parseStr` on
`line ++ rest`.

For the address lines the whole of G3–G7 is one equation, `parseHeader_tcpLine_fields`: the
first bad field wins.  Like it, G3–G7 are stated for an address family `(K, f, mk)` given by
`hK : ∀ w rest, afterProto w K rest = tcpBranch f mk w rest`, whose two instances are
`afterProto_tcp4` and `afterProto_tcp6`.
-/

namespace V1.Blame

open V1

/-! ## G11: the entry points -/

/-- `line` fails with the terminal error `e`, in `parse_header` and — followed by any further
input `rest` — at both entry points (`hv`: the line is valid UTF-8, for the bytes entry point;
`hb`: the end of the line is a character boundary of the input, for the text entry point). -/
structure Blamed (line : B) (e : ParseError) : Prop where
  header : parseHeader line = .error e
  terminal : e.isIncomplete = false
  terminalBytes : (BinaryParseError.parse e).isIncomplete = false
  bytes : ∀ rest : B, Utf8.valid line = true → parseBytes (line ++ rest) = .error (.parse e)
  str : ∀ rest : B, Utf8.isCharBoundary (line ++ rest) line.length = true →
    parseStr (line ++ rest) = .error e

/-- **G11.** A line that ends at its first CR and one more byte is the window of every input it
starts, so the verdict of `parse_header` on it is the verdict of both entry points. -/
theorem G11_entry {body : B} {c : UInt8} {e : ParseError} (h : crFree body)
    (he : parseHeader (body ++ [CR, c]) = .error e) (ht : e.isIncomplete = false) :
    Blamed (body ++ [CR, c]) e where
  header := he
  terminal := ht
  terminalBytes := ht
  bytes := fun rest hv => by
    obtain ⟨hw, htake⟩ := window_line c rest h
    rw [parseBytes_of_window hw, htake, hv, he]; rfl
  str := fun rest hb => by
    obtain ⟨hw, htake⟩ := window_line c rest h
    rw [parseStr_of_window hw, hb, htake, he]; rfl

/-! ## G1: the keyword -/

/-- **G1 (keyword), UNKNOWN line** (the tail has to be CR-free, so that the line ends at its
first CR). -/
theorem G1_keyword_unknown {kw tail : B} (hkw : sepFree kw) (hne : kw ≠ PROXY) (hcr : crFree tail)
    (hlen : (kw ++ [SP] ++ UNKNOWN ++ tail ++ [CR, LF]).length ≤ 107) :
    Blamed (kw ++ [SP] ++ UNKNOWN ++ tail ++ [CR, LF]) .invalidPrefix := by
  refine G11_entry (crFree_protoBody hkw sepFree_UNKNOWN hcr) ?_ rfl
  have e : kw ++ [SP] ++ UNKNOWN ++ tail ++ [CR, LF] = kw ++ SP :: (UNKNOWN ++ tail ++ [CR, LF]) := by
    simp only [List.append_assoc, List.cons_append, List.nil_append]
  rw [e] at hlen ⊢
  exact parseHeader_bad_keyword hkw hne isSep_SP hlen

/-! ## Lines `PROXY␠<proto>` followed by nothing or by a space and CR-free text -/

/-- **G2 (protocol), lines of any number of fields.** The second field is none of `TCP4`,
`TCP6`, `UNKNOWN` (it may be empty). -/
theorem G2_protocol_short {proto tail : B} {c : UInt8} (hproto : sepFree proto)
    (htail : tail = [] ∨ tail.head? = some SP)
    (hlen : (PROXY ++ [SP] ++ proto ++ tail ++ [CR, c]).length ≤ 107)
    (hcr : crFree tail) (h4 : proto ≠ TCP4) (h6 : proto ≠ TCP6) (hu : proto ≠ UNKNOWN) :
    Blamed (PROXY ++ [SP] ++ proto ++ tail ++ [CR, c]) .invalidProtocol := by
  have hb := crFree_protoBody sepFree_PROXY hproto hcr
  refine G11_entry hb ?_ rfl
  obtain ⟨rest, hrest, h⟩ := parseHeader_protoLine hproto htail hlen
  have hre : rest.isEmpty = false := by simpa using hrest
  rw [h, afterProto_other h4 h6 hu, hre, terminated_window hb]
  simp

/-- **G7 (the byte after the CR), UNKNOWN line.** -/
theorem G7_suffix_unknown {tail : B} {c : UInt8} (htail : tail = [] ∨ tail.head? = some SP)
    (hcr : crFree tail) (hc : c ≠ LF)
    (hlen : (PROXY ++ [SP] ++ UNKNOWN ++ tail ++ [CR, c]).length ≤ 107) :
    Blamed (PROXY ++ [SP] ++ UNKNOWN ++ tail ++ [CR, c]) .invalidSuffix := by
  have hb := crFree_protoBody sepFree_PROXY sepFree_UNKNOWN hcr
  refine G11_entry hb ?_ rfl
  obtain ⟨rest, -, h⟩ := parseHeader_protoLine sepFree_UNKNOWN htail hlen
  rw [h, afterProto_unknown, not_crlf_suffix _ hc, terminated_window hb]; rfl

/-! ## Lines of six fields -/

section line
variable {kw proto sa da sp dp : B} {c : UInt8}
  (hkw : sepFree kw) (hproto : sepFree proto)
  (hsa : sepFree sa) (hda : sepFree da) (hsp : sepFree sp) (hdp : sepFree dp)
include hkw hproto hsa hda hsp hdp

/-- A verdict of `parse_header` on a six-field line holds at the entry points too. -/
theorem blamed_tcpLine {e : ParseError} (he : parseHeader (tcpLine kw proto sa da sp dp [CR, c]) = .error e)
    (ht : e.isIncomplete = false) : Blamed (tcpLine kw proto sa da sp dp [CR, c]) e := by
  rw [tcpLine_eq_joinSP, ← joinSP_append] at he ⊢
  exact G11_entry (crFree_joinSP (sepFree_fields hkw hproto hsa hda hsp) hdp.crFree) he ht

/-- **G1 (keyword).** A TCP line whose first field is not `PROXY` (the byte after the CR is
arbitrary, in particular LF). -/
theorem G1_keyword (hne : kw ≠ PROXY) (hlen : (tcpLine kw proto sa da sp dp [CR, c]).length ≤ 107) :
    Blamed (tcpLine kw proto sa da sp dp [CR, c]) .invalidPrefix := by
  refine blamed_tcpLine hkw hproto hsa hda hsp hdp ?_ rfl
  rw [tcpLine_eq_joinSP] at hlen ⊢
  exact parseHeader_bad_keyword hkw hne isSep_SP hlen

omit hkw

/-- **G2 (protocol).** The second field is none of `TCP4`, `TCP6`, `UNKNOWN` (it may be empty). -/
theorem G2_protocol (h4 : proto ≠ TCP4) (h6 : proto ≠ TCP6) (hu : proto ≠ UNKNOWN)
    (hlen : (tcpLine PROXY proto sa da sp dp [CR, c]).length ≤ 107) :
    Blamed (tcpLine PROXY proto sa da sp dp [CR, c]) .invalidProtocol := by
  refine blamed_tcpLine sepFree_PROXY hproto hsa hda hsp hdp ?_ rfl
  rw [parseHeader_tcpLine hproto hsa hda hsp hdp hlen, afterProto_other h4 h6 hu]
  simp

end line

/-! ## G3–G7: the four fields and the byte after the CR, for either address family -/

section family
variable {α : Type} {f : B → Option α} {mk : α → α → UInt16 → UInt16 → Addresses} {K : B}
  (hK : ∀ w rest, afterProto w K rest = tcpBranch f mk w rest) (hKs : sepFree K)
  {sa da sp dp : B} {c : UInt8}
  (hsa : sepFree sa) (hda : sepFree da) (hsp : sepFree sp) (hdp : sepFree dp)
  (hlen : (tcpLine PROXY K sa da sp dp [CR, c]).length ≤ 107)
include hK hKs hsa hda hsp hdp hlen

/-- **G3 (source address).** Whatever the later fields are. -/
theorem G3_source (h : f sa = none) :
    Blamed (tcpLine PROXY K sa da sp dp [CR, c]) .invalidSourceAddress :=
  blamed_tcpLine sepFree_PROXY hKs hsa hda hsp hdp
    (by rw [parseHeader_tcpLine_fields hK hKs hsa hda hsp hdp hlen, h]) rfl

/-- **G4 (destination address).** -/
theorem G4_destination {a : α} (hs : f sa = some a) (h : f da = none) :
    Blamed (tcpLine PROXY K sa da sp dp [CR, c]) .invalidDestinationAddress :=
  blamed_tcpLine sepFree_PROXY hKs hsa hda hsp hdp
    (by rw [parseHeader_tcpLine_fields hK hKs hsa hda hsp hdp hlen, hs, h]) rfl

/-- **G5 (source port).** -/
theorem G5_source_port {a b : α} {k : Option StdInt.IntErrorKind} (hs : f sa = some a)
    (hd : f da = some b) (h : parsePort sp = .error k) :
    Blamed (tcpLine PROXY K sa da sp dp [CR, c]) (.invalidSourcePort k) :=
  blamed_tcpLine sepFree_PROXY hKs hsa hda hsp hdp
    (by rw [parseHeader_tcpLine_fields hK hKs hsa hda hsp hdp hlen, hs, hd, h]) rfl

/-- **G6 (destination port).** -/
theorem G6_destination_port {a b : α} {p : UInt16} {k : Option StdInt.IntErrorKind}
    (hs : f sa = some a) (hd : f da = some b) (hp : parsePort sp = .ok p)
    (h : parsePort dp = .error k) :
    Blamed (tcpLine PROXY K sa da sp dp [CR, c]) (.invalidDestinationPort k) :=
  blamed_tcpLine sepFree_PROXY hKs hsa hda hsp hdp
    (by rw [parseHeader_tcpLine_fields hK hKs hsa hda hsp hdp hlen, hs, hd, hp, h]) rfl

/-- **G7 (the byte after the CR).** All six elements are fine, the byte after the CR is
not LF (it may be any other byte, including SP and CR). -/
theorem G7_suffix {a b : α} {p q : UInt16} (hs : f sa = some a) (hd : f da = some b)
    (hp : parsePort sp = .ok p) (hq : parsePort dp = .ok q) (hc : c ≠ LF) :
    Blamed (tcpLine PROXY K sa da sp dp [CR, c]) .invalidSuffix :=
  blamed_tcpLine sepFree_PROXY hKs hsa hda hsp hdp
    (by rw [parseHeader_tcpLine_fields hK hKs hsa hda hsp hdp hlen, hs, hd, hp, hq]
        exact finish_bad_newline _ _ hc) rfl

end family

/-! ## G8: the 107 byte limit; G9: invalid UTF-8 -/

/-- **G8.** No CR within the first 107 bytes: both entry points report `HeaderTooLong`. -/
theorem G8_window_none {x : B} (h : windowLength x = none) :
    parseBytes x = .error (.parse .headerTooLong) ∧ parseStr x = .error .headerTooLong :=
  ⟨parseBytes_of_window_none h, parseStr_of_window_none h⟩

/-- **G8.** A window of more than 107 bytes: `HeaderTooLong` at the bytes entry point if the
window is valid UTF-8, at the text entry point if it ends on a character boundary. -/
theorem G8_too_long {x : B} {n : Nat} (h : windowLength x = some n) (hn : 107 < n) :
    (Utf8.valid (x.take n) = true → parseBytes x = .error (.parse .headerTooLong)) ∧
    (Utf8.isCharBoundary x n = true → parseStr x = .error .headerTooLong) :=
  ⟨fun hv => by rw [parseBytes_of_window h, hv, parseHeader_window_long h hn]; rfl,
    fun hb => by rw [parseStr_of_window h, hb, parseHeader_window_long h hn]; rfl⟩

/-- **G9.** A window that is not valid UTF-8 (bytes entry point). -/
theorem G9_invalid_utf8 {x : B} {n : Nat} (h : windowLength x = some n)
    (hv : Utf8.valid (x.take n) = false) : parseBytes x = .error .invalidUtf8 := by
  rw [parseBytes_of_window h, hv]; rfl

/-- **Text entry point, window not ending on a character boundary**: `InvalidSuffix`
(whatever the length of the window). -/
theorem G9_not_boundary {x : B} {n : Nat} (h : windowLength x = some n)
    (hb : Utf8.isCharBoundary x n = false) : parseStr x = .error .invalidSuffix := by
  rw [parseStr_of_window h, hb]; rfl

/-! ## G10: all these errors are terminal -/

/-- **G10.** -/
theorem G10_terminal (k : Option StdInt.IntErrorKind) :
    ParseError.isIncomplete .invalidPrefix = false ∧
    ParseError.isIncomplete .invalidProtocol = false ∧
    ParseError.isIncomplete .invalidSourceAddress = false ∧
    ParseError.isIncomplete .invalidDestinationAddress = false ∧
    ParseError.isIncomplete (.invalidSourcePort k) = false ∧
    ParseError.isIncomplete (.invalidDestinationPort k) = false ∧
    ParseError.isIncomplete .invalidSuffix = false ∧
    ParseError.isIncomplete .headerTooLong = false ∧
    BinaryParseError.isIncomplete .invalidUtf8 = false ∧
    (∀ e : ParseError, BinaryParseError.isIncomplete (.parse e) = e.isIncomplete) :=
  ⟨rfl, rfl, rfl, rfl, rfl, rfl, rfl, rfl, rfl, fun _ => rfl⟩

end V1.Blame
