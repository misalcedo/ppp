import PppModel.Lemmas.V1Accept
import PppModel.Lemmas.V1Window

/-!
# Streaming: every proper prefix of a well-formed PROXY v1 line is *incomplete*

A proper prefix of a line is unterminated (it has no CR, or its only CR is its last byte), so it
is its own window at both entry points; and its parts are some of the line's fields followed by a
prefix of the next one, on which `parse_header` answers with one of the `Missing…` errors or
`Partial`.  The first two fields are the same in every line (`prefix_inc`: the cut falls in
`PROXY`, in the keyword, or later); what is left is the verdict of the keyword's branch on the
parts of a prefix of the remaining fields, of which only the number matters until the cut reaches
the last field (`splitN_take_joinSP`).

`V1.Prefix.parseHeader_prefix_incomplete`, `V1.Prefix.parseStr_prefix_incomplete`,
`V1.Prefix.parseBytes_prefix`.
-/

namespace V1.Prefix

open V1 V1.Blame Auto

theorem ipv4Text_ne_nil {s : B} {a : Ip4} (h : Spec.V1.Ipv4Text s a) : s ≠ [] := by
  rw [(StdNet.ipv4Text_iff_display s a).mp h]
  intro hn
  have := (StdNet.displayIpv4_length a).1
  rw [hn] at this
  cases this

theorem splitN7_nil : splitN 7 [] = [[]] := rfl

/-! ## Prefixes of fields joined by separators -/

/-- A proper prefix of `f ++ c :: r` is a prefix of `f`, or `f ++ [c]` followed by a proper
prefix of `r`. -/
theorem take_field (f : B) (c : UInt8) (r : B) {n : Nat} (hn : n < (f ++ c :: r).length) :
    (∃ m, (f ++ c :: r).take n = f.take m) ∨
    (∃ m, m < r.length ∧ (f ++ c :: r).take n = f ++ c :: r.take m) := by
  rcases Nat.lt_or_ge f.length n with h | h
  · right
    obtain ⟨k, rfl⟩ := Nat.exists_eq_add_of_lt h
    rw [List.length_append, List.length_cons] at hn
    exact ⟨k, Nat.lt_of_succ_lt_succ (Nat.lt_of_add_lt_add_left hn),
      (List.take_length_add_append (k + 1)).trans (congrArg _ List.take_succ_cons)⟩
  · exact .inl ⟨n, List.take_append_of_le_length h⟩

/-- The parts of a proper prefix of space-joined fields: at most as many as there are fields (the
cut falls inside one of them), or all the fields and the parts of a proper prefix of what follows. -/
theorem splitN_take_joinSP {fs : List B} (hfs : ∀ f ∈ fs, sepFree f) (g : B) (k : Nat) {n : Nat}
    (hn : n < (joinSP fs g).length) :
    (splitN (k + fs.length + 1) ((joinSP fs g).take n)).length ≤ fs.length ∨
    (∃ m, m < g.length ∧
      splitN (k + fs.length + 1) ((joinSP fs g).take n) = fs ++ splitN (k + 1) (g.take m)) := by
  induction fs generalizing n with
  | nil => exact .inr ⟨n, hn, rfl⟩
  | cons f fs ih =>
    have hf := hfs f (List.mem_cons_self ..)
    show (splitN ((k + fs.length) + 2) ((f ++ SP :: joinSP fs g).take n)).length ≤ _ ∨
      ∃ m, _ ∧ splitN ((k + fs.length) + 2) ((f ++ SP :: joinSP fs g).take n) = _
    rcases take_field f SP _ hn with ⟨m, hm⟩ | ⟨m, hm, hm'⟩
    · exact .inl (by rw [hm, splitN_sepFree _ (sepFree_take hf m)]; exact Nat.le_add_left ..)
    · rw [hm', splitN_append _ hf isSep_SP]
      exact (ih (fun x hx => hfs x (List.mem_cons_of_mem _ hx)) hm).imp Nat.succ_le_succ
        (Exists.imp fun _ h => ⟨h.1, congrArg _ h.2⟩)

/-! ## Proper prefixes of `body ++ CRLF` are unterminated -/

/-- A proper prefix of `body ++ [CR, LF]` is a prefix of `body`, or is `body ++ [CR]`. -/
theorem take_body (body : B) {n : Nat} (hn : n < (body ++ [CR, LF]).length) :
    (∃ m, (body ++ [CR, LF]).take n = body.take m) ∨ (body ++ [CR, LF]).take n = body ++ [CR] := by
  rcases take_field body CR [LF] hn with h | ⟨m, hm, h⟩
  · exact .inl h
  · rw [List.length_singleton, Nat.lt_one_iff] at hm
    subst hm
    exact .inr h

theorem terminated_take {body : B} (h : crFree body) {n : Nat} (hn : n < (body ++ [CR, LF]).length) :
    terminated ((body ++ [CR, LF]).take n) = false := by
  rcases take_body body hn with ⟨m, e⟩ | e
  · rw [e]; exact terminated_of_crFree (crFree_take h m)
  · rw [e]; exact terminated_append_one h CR

/-! ## Incomplete results -/

section tcpBranch
variable {α : Type} {f : B → Option α} {mk : α → α → UInt16 → UInt16 → Addresses} {w : B}
  (hterm : terminated w = false)
include hterm

/-- A field is missing. -/
theorem tcpBranch_inc_of_missing {rest : List B} {e : ParseError}
    (h : takeFields rest false = .error e) (he : e.isIncomplete = true) :
    isIncompleteV1Str (tcpBranch f mk w rest) = true := by
  rw [tcpBranch_of_missing (hterm.symm ▸ h)]
  exact he

/-- All four fields are there and fine, the line ending is not. -/
theorem tcpBranch_inc_of_fields {rest : List B} {sa da sp dp : B} {rest' : List B} {a b : α}
    {p q : UInt16} (ht : takeFields rest false = .ok (sa, da, sp, dp, rest'))
    (hsa : f sa = some a) (hda : f da = some b) (hsp : parsePort sp = .ok p)
    (hdp : parsePort dp = .ok q) (hr : rest' = [] ∨ rest' = [[]]) :
    isIncompleteV1Str (tcpBranch f mk w rest) = true := by
  rw [tcpBranch_of_fields (hterm.symm ▸ ht), hsa, hda, hsp, hdp]
  rcases hr with rfl | rfl <;>
  · show isIncompleteV1Str (.error (if terminated w then _ else _)) = true
    rw [hterm]; rfl

/-- The first three fields are fine and the fourth is a possibly empty prefix of a port: the
destination port or the line ending is missing. -/
theorem tcpBranch_inc_of_port {sa da sp dp : B} {a b : α} {p : UInt16}
    (hsa : f sa = some a) (hda : f da = some b) (hsp : parsePort sp = .ok p)
    (hdp : dp = [] ∨ ∃ q, parsePort dp = .ok q) :
    isIncompleteV1Str (tcpBranch f mk w [sa, da, sp, dp]) = true := by
  rcases hdp with rfl | ⟨q, hq⟩
  · exact tcpBranch_inc_of_missing hterm (e := .missingDestinationPort) rfl rfl
  · refine tcpBranch_inc_of_fields hterm ?_ hsa hda hsp hq (.inl rfl)
    cases dp with
    | nil => cases hq
    | cons _ _ => rfl

end tcpBranch

/-! ## The first two parts -/

/-- A prefix of `PROXY`. -/
theorem proxyPrefix_inc (m : Nat) : isIncompleteV1Str (parseHeader (PROXY.take m)) = true := by
  by_cases hne : PROXY.take m = []
  · rw [hne]; rfl
  · -- the instance is named because the search for `LawfulBEq UInt8` tries the order classes first
    rw [parseHeader_sepFree (sepFree_take sepFree_PROXY m) hne
      (Nat.le_trans (List.length_take_le' ..) (by decide)),
      if_pos ((@List.isPrefixOf_iff_prefix _ _ instLawfulBEq ..).mpr (List.take_prefix ..))]
    rfl

/-- A proper prefix of a protocol keyword is none of the keywords, and `TCP4` or `UNKNOWN`
starts with it. -/
theorem keyword_prefixes : ∀ K ∈ [TCP4, TCP6, UNKNOWN], ∀ m < K.length,
    ((K.take m).isPrefixOf TCP4 || (K.take m).isPrefixOf UNKNOWN) = true ∧
      K.take m ≠ TCP4 ∧ K.take m ≠ TCP6 ∧ K.take m ≠ UNKNOWN := by
  decide +kernel

/-- `PROXY` and a proper prefix of a protocol keyword. -/
theorem keywordPrefix_inc {w K : B} (hK : K ∈ [TCP4, TCP6, UNKNOWN]) {m : Nat} (hm : m < K.length)
    (hs : splitN 7 w = [PROXY, K.take m]) (hterm : terminated w = false) (hlen : w.length ≤ 107) :
    isIncompleteV1Str (parseHeader w) = true := by
  obtain ⟨hpre, h4, h6, hu⟩ := keyword_prefixes K hK m hm
  rw [parseHeader_of_parts hlen hs, if_pos rfl, afterProto_other h4 h6 hu, hterm, hpre]
  cases (K.take m).isEmpty
  · rfl
  · rfl

/-- Proper prefixes of `PROXY␠K<sep>r`, `K` a protocol keyword: the cut falls inside `PROXY` or
inside `K`, where `parse_header` answers `Partial`; or the first two parts are `PROXY` and `K`, and
the verdict is that of the branch for `K` on the parts of a prefix of `r` (no part, if the cut
falls right after `K`). -/
theorem prefix_inc {K r : B} {c : UInt8} (hKw : K ∈ [TCP4, TCP6, UNKNOWN]) (hKs : sepFree K)
    (hc : isSep c = true) (hlen : (PROXY ++ SP :: (K ++ c :: r)).length ≤ 107) {n : Nat}
    (hn : n < (PROXY ++ SP :: (K ++ c :: r)).length)
    (hterm : terminated ((PROXY ++ SP :: (K ++ c :: r)).take n) = false)
    (hrest : ∀ w rest, terminated w = false →
      (rest = [] ∨ ∃ m, m < r.length ∧ rest = splitN 5 (r.take m)) →
      isIncompleteV1Str (afterProto w K rest) = true) :
    isIncompleteV1Str (parseHeader ((PROXY ++ SP :: (K ++ c :: r)).take n)) = true := by
  have hlen' : ((PROXY ++ SP :: (K ++ c :: r)).take n).length ≤ 107 :=
    Nat.le_trans (List.length_take_le' ..) hlen
  rcases take_field _ SP _ hn with ⟨m, e1⟩ | ⟨n1, hn1, e1⟩
  · rw [e1]; exact proxyPrefix_inc m
  have hs := e1 ▸ splitN_append 5 (r := (K ++ c :: r).take n1) sepFree_PROXY isSep_SP
  generalize (PROXY ++ SP :: (K ++ c :: r)).take n = w at hs hterm hlen' ⊢
  have key : ∀ {rest}, splitN 6 ((K ++ c :: r).take n1) = K :: rest →
      (rest = [] ∨ ∃ m, m < r.length ∧ rest = splitN 5 (r.take m)) →
      isIncompleteV1Str (parseHeader w) = true := fun e h => by
    rw [parseHeader_of_parts hlen' (hs.trans (congrArg _ e)), if_pos rfl]; exact hrest w _ hterm h
  rcases take_field _ c _ hn1 with ⟨m, e2⟩ | ⟨n2, h2, e2⟩
  · rw [e2, splitN_sepFree 5 (sepFree_take hKs m)] at hs
    by_cases hlt : m < K.length
    · exact keywordPrefix_inc hKw hlt hs hterm hlen'
    · exact key (by rw [e2, List.take_of_length_le (Nat.not_lt.mp hlt), splitN_sepFree 5 hKs])
        (.inl rfl)
  · exact key (by rw [e2, splitN_append 4 hKs hc]) (.inr ⟨n2, h2, rfl⟩)

/-! ## UNKNOWN lines -/

/-- Proper prefixes of `PROXY UNKNOWN…\r\n`: whatever follows the keyword is ignored. -/
theorem unknown_prefix_inc {tail : B} (htail : tail = [] ∨ tail.head? = some SP) (hcr : crFree tail)
    (hlen : (PROXY ++ [SP] ++ UNKNOWN ++ tail ++ [CR, LF]).length ≤ 107) {n : Nat}
    (hn : n < (PROXY ++ [SP] ++ UNKNOWN ++ tail ++ [CR, LF]).length) :
    isIncompleteV1Str (parseHeader ((PROXY ++ [SP] ++ UNKNOWN ++ tail ++ [CR, LF]).take n)) = true := by
  have hterm := terminated_take (crFree_protoBody sepFree_PROXY sepFree_UNKNOWN hcr) hn
  obtain ⟨c, r, hc, e⟩ := protoLine_split PROXY UNKNOWN LF htail
  rw [e] at hn hterm hlen ⊢
  refine prefix_inc (.tail _ (.tail _ (.head _))) sepFree_UNKNOWN hc hlen hn hterm fun w rest ht _ => ?_
  rw [afterProto_unknown, not_crlf_suffix_of_unterminated ht, ht]
  rfl

/-! ## TCP lines -/

/-- Proper prefixes of a TCP line of either family. -/
theorem tcp_prefix_inc {α : Type} {f : B → Option α} {mk : α → α → UInt16 → UInt16 → Addresses}
    {K : B} (hK : ∀ w rest, afterProto w K rest = tcpBranch f mk w rest)
    (hKw : K ∈ [TCP4, TCP6, UNKNOWN]) (hKs : sepFree K) {sa da sp dp : B} {a b : α} {p q : UInt16}
    (hsa : sepFree sa) (hda : sepFree da) (hfa : f sa = some a) (hfb : f da = some b)
    (hsp : sp = StdInt.dec p.toNat) (hdp : dp = StdInt.dec q.toNat)
    (hlen : (tcpLine PROXY K sa da sp dp [CR, LF]).length ≤ 107) {n : Nat}
    (hn : n < (tcpLine PROXY K sa da sp dp [CR, LF]).length) :
    isIncompleteV1Str (parseHeader ((tcpLine PROXY K sa da sp dp [CR, LF]).take n)) = true := by
  have hspf : sepFree sp := hsp ▸ dec_sepFree _
  have hdpf : sepFree dp := hdp ▸ dec_sepFree _
  have hpsp : parsePort sp = .ok p := (parsePort_iff sp p).mpr hsp
  have hfs := sepFree_fields sepFree_PROXY hKs hsa hda hspf
  have hterm : terminated ((tcpLine PROXY K sa da sp dp [CR, LF]).take n) = false := by
    rw [tcpLine_eq_joinSP, ← joinSP_append] at hn ⊢
    exact terminated_take (crFree_joinSP hfs hdpf.crFree) hn
  rw [tcpLine_eq_joinSP] at hn hlen hterm ⊢
  -- a cut in `PROXY` or in the keyword is `prefix_inc`'s; `rest` are the parts after the keyword
  refine prefix_inc (r := joinSP [sa, da, sp] (dp ++ [CR, LF])) hKw hKs isSep_SP hlen hn hterm
    fun w rest ht h => ?_
  rw [hK]
  rcases h with rfl | ⟨m, hm, rfl⟩
  · -- the cut is right after the keyword
    exact tcpBranch_inc_of_missing ht rfl rfl
  rcases splitN_take_joinSP (fun x hx => hfs x (.tail _ (.tail _ hx))) (dp ++ [CR, LF]) 1 hm with
    h3 | ⟨m', hm', hs⟩
  · -- the cut is in one of `sa`, `da`, `sp`: at most three parts, so a field is missing
    obtain ⟨e, he, hinc⟩ := takeFields_short (Nat.lt_succ_of_le h3)
    exact tcpBranch_inc_of_missing ht he hinc
  · rw [show splitN 5 _ = [sa, da, sp] ++ splitN 2 ((dp ++ [CR, LF]).take m') from hs]
    rcases take_body dp hm' with ⟨j, e⟩ | e
    · -- the cut is in the last port: a prefix of a port is empty or a port
      rw [e, splitN_sepFree 1 (sepFree_take hdpf j)]
      exact tcpBranch_inc_of_port ht hfa hfb hpsp ((Nat.eq_zero_or_pos j).imp
        (fun h => by rw [h]; rfl) fun hpos => hdp ▸ parsePort_prefix q j hpos)
    · -- the cut is between CR and LF: all fields are fine, the part after the CR is empty
      rw [e, splitN_append 0 hdpf isSep_CR]
      exact tcpBranch_inc_of_fields ht (takeFields_five ..) hfa hfb hpsp
        ((parsePort_iff dp q).mpr hdp) (.inr rfl)

/-! ## `parse_header` on proper prefixes -/

/-- **Streaming (parse_header).** Every proper prefix of a well-formed v1 line of at most 107
bytes is reported incomplete. -/
theorem parseHeader_prefix_incomplete {w : B} {addr : Addresses} (hl : Spec.V1.Line ip6Model w addr)
    (hlen : w.length ≤ 107) {n : Nat} (hn : n < w.length) :
    isIncompleteV1Str (parseHeader (w.take n)) = true := by
  cases hl with
  | unknown tail h1 h2 => exact unknown_prefix_inc h1 h2 hlen hn
  | tcp4 sa da sp dp a b p q hsa hda hsp hdp =>
    exact tcp_prefix_inc afterProto_tcp4 (.head _) sepFree_TCP4 (ipv4Text_sepFree hsa)
      (ipv4Text_sepFree hda) ((StdNet.ipv4Text_iff_parse sa a).mp hsa) ((StdNet.ipv4Text_iff_parse da b).mp hda)
      ((StdNet.portText_iff_dec sp p).mp hsp) ((StdNet.portText_iff_dec dp q).mp hdp) hlen hn
  | tcp6 sa da sp dp a b p q hsa hda hsp hdp =>
    exact tcp_prefix_inc afterProto_tcp6 (.tail _ (.head _)) sepFree_TCP6 hsa.2 hda.2 hsa.1 hda.1
      ((StdNet.portText_iff_dec sp p).mp hsp) ((StdNet.portText_iff_dec dp q).mp hdp) hlen hn

/-! ## The entry points -/

/-- A proper prefix of a well-formed line is its own window. -/
theorem window_prefix {w : B} {addr : Addresses} (hl : Spec.V1.Line ip6Model w addr)
    (hlen : w.length ≤ 107) {n : Nat} (hn : n < w.length) :
    windowLength (w.take n) = some (w.take n).length := by
  obtain ⟨body, hb, rfl⟩ := line_shape hl
  exact windowLength_self (terminated_take hb hn)
    (Nat.lt_of_le_of_lt (List.length_take_le ..) (Nat.lt_of_lt_of_le hn hlen))

/-- **Streaming (`TryFrom<&str>`).** The window of a proper prefix is the whole prefix, whose
end is always a character boundary. -/
theorem parseStr_prefix_incomplete {w : B} {addr : Addresses} (hl : Spec.V1.Line ip6Model w addr)
    (hlen : w.length ≤ 107) {n : Nat} (hn : n < w.length) :
    isIncompleteV1Str (parseStr (w.take n)) = true := by
  rw [parseStr_self (window_prefix hl hlen hn)]
  exact parseHeader_prefix_incomplete hl hlen hn

/-- **Streaming (`TryFrom<&[u8]>`).** A proper prefix is incomplete exactly if it is valid UTF-8
(the cut is on a character boundary); otherwise (a cut inside a character) it is the terminal
`InvalidUtf8`. -/
theorem parseBytes_prefix {w : B} {addr : Addresses} (hl : Spec.V1.Line ip6Model w addr)
    (hlen : w.length ≤ 107) {n : Nat} (hn : n < w.length) :
    isIncompleteV1 (parseBytes (w.take n)) = Utf8.valid (w.take n) ∧
      (Utf8.valid (w.take n) = false → parseBytes (w.take n) = .error .invalidUtf8) := by
  rw [parseBytes_self (window_prefix hl hlen hn)]
  cases Utf8.valid (w.take n)
  · exact ⟨rfl, fun _ => rfl⟩
  · exact ⟨(isIncompleteV1_mapError _).trans (parseHeader_prefix_incomplete hl hlen hn), nofun⟩

end V1.Prefix
