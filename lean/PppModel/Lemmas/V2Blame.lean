import PppModel.Lemmas.V2

/-!
# A single malformed element is rejected terminally and blamed on the right field

`blame_*`: which error the parser reports when the signature, one of the four
nibbles (`control_bad_*`: on the two control bytes alone), or the declared length
is wrong (everything before it being fine).
`encode_append_frame`, `versionCommand_nibbles`, `set_length`: for the same facts
phrased as "overwrite exactly one element of a well-formed header" with `List.set`
(`Props/C12.lean`).
`parse_badPrefix_of_head`: the first byte alone decides whether the signature can
still match.
-/

namespace V2

/-! ## Stage by stage -/

/-- B1: at least twelve bytes that are not the signature. -/
theorem blame_signature (x : B) (h12 : 12 ≤ x.length) (hs : x.take 12 ≠ sig) :
    parse x = .error .badPrefix :=
  parse_badPrefix (mt (prefix_sig_iff h12).mp hs)

/-- B1, short case: fewer than twelve bytes that cannot be continued to the signature. -/
theorem blame_signature_short (x : B) (h12 : x.length < 12) (hs : ¬ x <+: sig) :
    parse x = .error .badPrefix :=
  parse_badPrefix (by rw [List.take_of_length_le (Nat.le_of_lt h12)]; exact hs)

theorem decodeCommand_good {b : UInt8} (h : b &&& 0x0F = 0 ∨ b &&& 0x0F = 1) :
    ∃ c, decodeCommand b = .ok c := by
  rcases h with h | h
  · exact ⟨.loc, (decodeCommand_ok_iff b _).mpr h⟩
  · exact ⟨.proxy, (decodeCommand_ok_iff b _).mpr h⟩

theorem decodeFamily_good {b : UInt8}
    (h : b &&& 0xF0 = 0x00 ∨ b &&& 0xF0 = 0x10 ∨ b &&& 0xF0 = 0x20 ∨ b &&& 0xF0 = 0x30) :
    ∃ f, decodeFamily b = .ok f := by
  rcases h with h | h | h | h
  · exact ⟨.unspec, (decodeFamily_ok_iff b _).mpr h⟩
  · exact ⟨.ipv4, (decodeFamily_ok_iff b _).mpr h⟩
  · exact ⟨.ipv6, (decodeFamily_ok_iff b _).mpr h⟩
  · exact ⟨.unix, (decodeFamily_ok_iff b _).mpr h⟩

/-- The four nibble decoders behind an accepted pair of control bytes. -/
theorem control_ok_decode {vc afp : UInt8} {v c f t} (h : control vc afp = .ok (v, c, f, t)) :
    decodeVersion vc = .ok v ∧ decodeCommand vc = .ok c ∧
    decodeFamily afp = .ok f ∧ decodeTransport afp = .ok t := by
  obtain ⟨⟨hv, hc⟩, hf, ht⟩ := (control_ok_iff_decode vc afp v c f t).mp h
  exact ⟨hv, hc, hf, ht⟩

theorem control_bad_version {vc : UInt8} (afp : UInt8) (hv : vc &&& 0xF0 ≠ 0x20) :
    control vc afp = .error (.version (vc &&& 0xF0)) := by
  simp only [control, decodeVersion, if_neg hv]

theorem control_bad_command {vc : UInt8} (afp : UInt8) (hv : vc &&& 0xF0 = 0x20)
    (hc : vc &&& 0x0F ≠ 0 ∧ vc &&& 0x0F ≠ 1) : control vc afp = .error (.command (vc &&& 0x0F)) := by
  simp only [control, decodeVersion, if_pos hv, decodeCommand, if_neg hc.1, if_neg hc.2]

theorem control_bad_family {vc afp : UInt8} (hv : vc &&& 0xF0 = 0x20) (hc : vc &&& 0x0F = 0 ∨ vc &&& 0x0F = 1)
    (hf : afp &&& 0xF0 ≠ 0x00 ∧ afp &&& 0xF0 ≠ 0x10 ∧ afp &&& 0xF0 ≠ 0x20 ∧ afp &&& 0xF0 ≠ 0x30) :
    control vc afp = .error (.addressFamily (afp &&& 0xF0)) := by
  obtain ⟨c, hc'⟩ := decodeCommand_good hc
  simp only [control, decodeVersion, if_pos hv, hc', decodeFamily, if_neg hf.1, if_neg hf.2.1,
    if_neg hf.2.2.1, if_neg hf.2.2.2]

theorem control_bad_transport {vc afp : UInt8} (hv : vc &&& 0xF0 = 0x20) (hc : vc &&& 0x0F = 0 ∨ vc &&& 0x0F = 1)
    (hf : afp &&& 0xF0 = 0x00 ∨ afp &&& 0xF0 = 0x10 ∨ afp &&& 0xF0 = 0x20 ∨ afp &&& 0xF0 = 0x30)
    (ht : afp &&& 0x0F ≠ 0 ∧ afp &&& 0x0F ≠ 1 ∧ afp &&& 0x0F ≠ 2) :
    control vc afp = .error (.protocol (afp &&& 0x0F)) := by
  obtain ⟨c, hc'⟩ := decodeCommand_good hc
  obtain ⟨f, hf'⟩ := decodeFamily_good hf
  simp only [control, decodeVersion, if_pos hv, hc', hf', decodeTransport, if_neg ht.1, if_neg ht.2.1,
    if_neg ht.2.2]

/-- B2: wrong version nibble. -/
theorem blame_version (x : B) (hg : gate x = .ok ()) (hv : byteAt x 12 &&& 0xF0 ≠ 0x20) :
    parse x = .error (.version (byteAt x 12 &&& 0xF0)) :=
  parse_of_control_error hg (control_bad_version _ hv)

/-- B3: version fine, wrong command nibble. -/
theorem blame_command (x : B) (hg : gate x = .ok ()) (hv : byteAt x 12 &&& 0xF0 = 0x20)
    (hc : byteAt x 12 &&& 0x0F ≠ 0 ∧ byteAt x 12 &&& 0x0F ≠ 1) :
    parse x = .error (.command (byteAt x 12 &&& 0x0F)) :=
  parse_of_control_error hg (control_bad_command _ hv hc)

/-- B4: version and command fine, wrong address-family nibble. -/
theorem blame_family (x : B) (hg : gate x = .ok ()) (hv : byteAt x 12 &&& 0xF0 = 0x20)
    (hc : byteAt x 12 &&& 0x0F = 0 ∨ byteAt x 12 &&& 0x0F = 1)
    (hf : byteAt x 13 &&& 0xF0 ≠ 0x00 ∧ byteAt x 13 &&& 0xF0 ≠ 0x10 ∧
          byteAt x 13 &&& 0xF0 ≠ 0x20 ∧ byteAt x 13 &&& 0xF0 ≠ 0x30) :
    parse x = .error (.addressFamily (byteAt x 13 &&& 0xF0)) :=
  parse_of_control_error hg (control_bad_family hv hc hf)

/-- B5: version, command and family fine, wrong transport nibble. -/
theorem blame_transport (x : B) (hg : gate x = .ok ()) (hv : byteAt x 12 &&& 0xF0 = 0x20)
    (hc : byteAt x 12 &&& 0x0F = 0 ∨ byteAt x 12 &&& 0x0F = 1)
    (hf : byteAt x 13 &&& 0xF0 = 0x00 ∨ byteAt x 13 &&& 0xF0 = 0x10 ∨
          byteAt x 13 &&& 0xF0 = 0x20 ∨ byteAt x 13 &&& 0xF0 = 0x30)
    (ht : byteAt x 13 &&& 0x0F ≠ 0 ∧ byteAt x 13 &&& 0x0F ≠ 1 ∧ byteAt x 13 &&& 0x0F ≠ 2) :
    parse x = .error (.protocol (byteAt x 13 &&& 0x0F)) :=
  parse_of_control_error hg (control_bad_transport hv hc hf ht)

/-- B6: control bytes fine, declared length smaller than the address block of the family. -/
theorem blame_length (x : B) (hg : gate x = .ok ()) {v c f t}
    (hc : control (byteAt x 12) (byteAt x 13) = .ok (v, c, f, t))
    (hl : be16 (byteAt x 14) (byteAt x 15) < f.size) :
    parse x = .error (.invalidAddresses (be16 (byteAt x 14) (byteAt x 15)) f.size) := by
  obtain ⟨g1, g2⟩ := (gate_ok_iff x).mp hg
  rw [congrArg parse (eq_frame g1 g2), parse_frame, hc]
  exact if_pos hl

/-- B7: every error named above is terminal (not "incomplete"). -/
theorem blame_terminal :
    ParseError.badPrefix.isIncomplete = false ∧
    (∀ v, (ParseError.version v).isIncomplete = false) ∧
    (∀ c, (ParseError.command c).isIncomplete = false) ∧
    (∀ a, (ParseError.addressFamily a).isIncomplete = false) ∧
    (∀ p, (ParseError.protocol p).isIncomplete = false) ∧
    (∀ l s, (ParseError.invalidAddresses l s).isIncomplete = false) :=
  ⟨rfl, fun _ => rfl, fun _ => rfl, fun _ => rfl, fun _ => rfl, fun _ _ => rfl⟩

/-! ## Exactly one element of a well-formed header overwritten -/

open Spec.V2 in
/-- A well-formed header followed by anything is a frame; `frame_set_*` overwrite its bytes 12 to 15. -/
theorem encode_append_frame (cmd : Command) (tr : Transport) (addr : Addresses) (rest trail : B) :
    ∃ hi lo p, encode cmd tr addr rest ++ trail =
      frame (versionCommand cmd) (familyTransport addr.family tr) hi lo p :=
  ⟨_, _, _, by rw [encode_eq_frame, frame_append]⟩

theorem versionCommand_nibbles (cmd : Command) :
    Spec.V2.versionCommand cmd &&& 0xF0 = 0x20 ∧
    (Spec.V2.versionCommand cmd &&& 0x0F = 0 ∨ Spec.V2.versionCommand cmd &&& 0x0F = 1) := by
  cases cmd <;> decide

/-- B8, bytes 14 and 15 replaced by a declared length smaller than the address
block of the header's family. -/
theorem set_length (cmd : Command) (tr : Transport) (addr : Addresses) (rest trail : B)
    (l : Nat) (hl16 : l < 65536) (hl : l < Spec.V2.familySize addr.family) :
    parse (((Spec.V2.encode cmd tr addr rest ++ trail).set 14 (UInt8.ofNat (l / 256))).set 15
        (UInt8.ofNat (l % 256))) =
      .error (.invalidAddresses l (Spec.V2.familySize addr.family)) := by
  obtain ⟨hi, lo, p, hx⟩ := encode_append_frame cmd tr addr rest trail
  rw [hx, frame_set_hi, frame_set_lo, parse_wf, be16_be16Bytes l hl16, if_pos hl]

/-- A non-empty input whose first byte is not the first signature byte is
rejected terminally, whatever its length. -/
theorem parse_badPrefix_of_head {y : B} {c : UInt8} (hh : y.head? = some c) (hc : c ≠ 0x0D) :
    parse y = .error .badPrefix := by
  cases y with
  | nil => cases hh
  | cons d t =>
    cases hh
    -- a prefix of `sig` starts with its first byte
    exact parse_badPrefix fun hp => hc (List.cons_prefix_cons.mp hp).1

end V2
