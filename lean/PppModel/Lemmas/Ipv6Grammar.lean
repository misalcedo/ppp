import PppModel.Lemmas.SpecText
import PppModel.Lemmas.Ipv6GrammarHex
import PppModel.Lemmas.V1Split

/-!
# `Ipv6Addr::from_str` accepts exactly the RFC 4291 section 2.2 text forms

`StdNet.parseIpv6_iff_text : parseIpv6 s = some a ↔ Spec.V1.Ipv6Text s a`.

The text a `read_groups` call consumes is described by an inductive relation `PiecesAt`, which
is related on one side to the grammar's `Groups` / `TailPieces` / `HeadPieces` (`Spec.V1`) and on
the other to `readGroupsFrom`.

Consequences at the end: a text form consists of hex digits, `:` and `.` (so it holds no separator of
the v1 line), it contains a colon (so no text is an address of both families), and the parser
refuses exactly the texts outside the grammar.
-/

namespace StdNet

open Spec.V1 (HexGroup Groups TailPieces HeadPieces Ipv4Text v4Groups Ipv6Pieces Ipv6Text COLON)

/-! ## `PiecesAt` -/

/-- The separator `read_separator` expects: a colon except in the first slot. -/
def sepB (c : Bool) : B := if c then [0x3A] else []

@[simp] theorem sepB_true : sepB true = [0x3A] := rfl
@[simp] theorem sepB_false : sepB false = [] := rfl

/-- `PiecesAt c t gs b`: `t` is a run of hex groups, each but the first preceded by a colon,
the first preceded by a colon iff `c`; the run may end in a dotted quad (then `b`). `gs` are the
16-bit pieces denoted. -/
inductive PiecesAt : Bool → B → List Nat → Bool → Prop
  | nil (c : Bool) : PiecesAt c [] [] false
  | v4 (c : Bool) (t : B) (a : Ip4) : Ipv4Text t a → PiecesAt c (sepB c ++ t) (v4Groups a) true
  | cons (c : Bool) (s : B) (g : Nat) (t : B) (gs : List Nat) (b : Bool) :
      HexGroup s g → PiecesAt true t gs b → PiecesAt c (sepB c ++ (s ++ t)) (g :: gs) b

theorem piecesAt_nil_text {c : Bool} {t : B} {b : Bool} (h : PiecesAt c t [] b) : t = [] := by
  generalize hgs : ([] : List Nat) = gs at h
  cases h with
  | nil => rfl
  | v4 t a ht => simp [v4Groups] at hgs
  | cons s g t gs b hg ht => simp at hgs

/-! ## from the grammar to `PiecesAt` -/

/-- `Groups` in front of a continuation run `t`: empty for a plain run, `:a.b.c.d` for one that ends
in a dotted quad. -/
theorem piecesAt_groups_append {u : B} {gs : List Nat} (h : Groups u gs) {t : B} {ts : List Nat} {b : Bool}
    (ht : PiecesAt true t ts b) : ∀ c, PiecesAt c (sepB c ++ (u ++ t)) (gs ++ ts) b := by
  induction h with
  | one s g hg => exact fun c => PiecesAt.cons c s g t ts b hg ht
  | cons s g rest gs hg _ ih =>
    intro c
    have := PiecesAt.cons c s g _ _ b hg (ih true)
    simpa [COLON, List.append_assoc] using this

theorem piecesAt_of_groups {u : B} {gs : List Nat} (h : Groups u gs) (c : Bool) :
    PiecesAt c (sepB c ++ u) gs false := by
  simpa using piecesAt_groups_append h (.nil true) c

theorem piecesAt_of_tail {s : B} {gs : List Nat} (h : TailPieces s gs) : ∃ b, PiecesAt false s gs b := by
  cases h with
  | empty => exact ⟨false, PiecesAt.nil false⟩
  | groups _ _ hg => exact ⟨false, by simpa using piecesAt_of_groups hg false⟩
  | v4 _ a ht => exact ⟨true, by simpa using PiecesAt.v4 false s a ht⟩
  | groupsV4 u gs' t a hg ht =>
    exact ⟨true, by simpa [COLON, List.append_assoc] using piecesAt_groups_append hg (.v4 true t a ht) false⟩

theorem piecesAt_of_head {s : B} {gs : List Nat} (h : HeadPieces s gs) : PiecesAt false s gs false := by
  cases h with
  | empty => exact PiecesAt.nil false
  | groups _ _ hg => simpa using piecesAt_of_groups hg false

/-! ## from `PiecesAt` to the grammar -/

theorem groups_of_piecesAt {c : Bool} {u : B} {gs : List Nat} {b : Bool} (h : PiecesAt c u gs b)
    (hb : b = false) (hne : gs ≠ []) : ∃ u', u = sepB c ++ u' ∧ Groups u' gs := by
  induction h with
  | nil c => exact absurd rfl hne
  | v4 c t a ht => cases hb
  | cons c s g t gs b hg ht ih =>
    by_cases hgs : gs = []
    · subst hgs
      have := piecesAt_nil_text ht
      subst this
      exact ⟨s, by simp, Groups.one s g hg⟩
    · rcases ih hb hgs with ⟨t', rfl, hG⟩
      refine ⟨s ++ [COLON] ++ t', ?_, Groups.cons s g t' gs hg hG⟩
      simp [COLON, List.append_assoc]

theorem tail_of_piecesAt_v4 {c : Bool} {u : B} {gs : List Nat} {b : Bool} (h : PiecesAt c u gs b)
    (hb : b = true) : ∃ u', u = sepB c ++ u' ∧ TailPieces u' gs ∧ 2 ≤ gs.length := by
  induction h with
  | nil c => cases hb
  | v4 c t a ht => exact ⟨t, rfl, TailPieces.v4 t a ht, Nat.le_refl 2⟩
  | cons c s g t gs b hg ht ih =>
    rcases ih hb with ⟨t', rfl, hT, hlen⟩
    refine ⟨s ++ [COLON] ++ t', by rw [List.append_assoc]; rfl, ?_, Nat.le_succ_of_le hlen⟩
    cases hT with
    | empty => cases hlen
    | groups _ _ hG =>
      -- impossible shape is still fine: a plain run of groups
      exact TailPieces.groups _ _ (Groups.cons s g t' gs hg hG)
    | v4 _ a ha => exact TailPieces.groupsV4 s [g] t' a (Groups.one s g hg) ha
    | groupsV4 s' gs' t'' a hG ha =>
      have := TailPieces.groupsV4 _ _ t'' a (Groups.cons s g s' gs' hg hG) ha
      simpa [List.append_assoc] using this

theorem head_of_piecesAt {u : B} {gs : List Nat} (h : PiecesAt false u gs false) :
    HeadPieces u gs := by
  by_cases hgs : gs = []
  · subst hgs
    rw [piecesAt_nil_text h]; exact HeadPieces.empty
  · rcases groups_of_piecesAt h rfl hgs with ⟨u', rfl, hG⟩
    exact HeadPieces.groups _ _ (by simpa using hG)

theorem tail_of_piecesAt {u : B} {gs : List Nat} {b : Bool} (h : PiecesAt false u gs b) :
    TailPieces u gs := by
  cases b with
  | true =>
    rcases tail_of_piecesAt_v4 h rfl with ⟨u', rfl, hT, _⟩
    simpa using hT
  | false =>
    -- a run without a dotted quad is a head run, and every head run is a tail run
    cases head_of_piecesAt h with
    | empty => exact .empty
    | groups _ _ hG => exact .groups _ _ hG

/-! ## `read_separator` -/

theorem readSeparator_some {α : Type} {i : Nat} {inner : B → Option (α × B)} {s : B} {r : α × B}
    (h : readSeparator 0x3A i inner s = some r) :
    ∃ s', s = sepB (decide (0 < i)) ++ s' ∧ inner s' = some r := by
  cases i with
  | zero => rw [readSeparator_zero] at h; exact ⟨s, rfl, h⟩
  | succ i =>
    rcases readSeparator_succ_some h with ⟨s', rfl, h'⟩
    exact ⟨s', by simp, h'⟩

theorem readSeparator_sepB {α : Type} (i : Nat) (inner : B → Option (α × B)) (s : B) :
    readSeparator 0x3A i inner (sepB (decide (0 < i)) ++ s) = inner s := by
  cases i with
  | zero => rw [readSeparator_zero]; rfl
  | succ i => simpa using readSeparator_succ_cons 0x3A i inner s

/-! ## soundness of `read_groups` -/

theorem readGroupsFrom_sound (limit : Nat) : ∀ (fuel i : Nat) (s : B) (gs : List Nat) (b : Bool) (rest : B),
    i + fuel = limit → readGroupsFrom limit fuel i s = (gs, b, rest) →
    ∃ t, s = t ++ rest ∧ PiecesAt (decide (0 < i)) t gs b ∧ gs.length ≤ fuel := by
  intro fuel i s
  fun_induction readGroupsFrom limit fuel i s
  case case1 => rintro gs b rest - ⟨⟩; exact ⟨[], rfl, PiecesAt.nil _, Nat.le_refl 0⟩
  case case2 fuel i s v4 ip rest' hv4 =>
    -- an embedded IPv4 address ended the read
    rintro gs b rest hlim ⟨⟩
    rcases ite_eq_cases hv4 with ⟨_, hv4⟩ | ⟨-, hv4⟩
    · obtain ⟨s', rfl, hs'⟩ := readSeparator_some hv4
      obtain ⟨rfl, -⟩ := readIpv4_iff.mp hs'
      exact ⟨sepB (decide (0 < i)) ++ displayIpv4 ip, (List.append_assoc ..).symm,
        PiecesAt.v4 _ _ ip ((ipv4Text_iff_display _ _).mpr rfl), by show 2 ≤ _; omega⟩
    · cases hv4
  case case3 fuel i s v4 hv4 g rest' hhex gs' f r' hrec ih =>
    rintro gs b rest hlim ⟨⟩
    obtain ⟨s', rfl, hs'⟩ := readSeparator_some hhex
    obtain ⟨ds, rfl, hg, -⟩ := (readHex16_iff _ _ _).mp hs'
    obtain ⟨t, rfl, hp, hl⟩ := ih gs' f r' ((Nat.add_right_comm i 1 fuel).trans hlim) hrec
    exact ⟨sepB (decide (0 < i)) ++ (ds ++ t), by simp only [List.append_assoc],
      PiecesAt.cons _ ds g t gs' f hg hp, Nat.succ_le_succ hl⟩
  case case4 => rintro gs b rest - ⟨⟩; exact ⟨[], rfl, PiecesAt.nil _, Nat.zero_le _⟩

theorem readGroups_sound {limit : Nat} {s : B} {gs : List Nat} {b : Bool} {rest : B}
    (h : readGroups limit s = (gs, b, rest)) :
    ∃ t, s = t ++ rest ∧ PiecesAt false t gs b ∧ gs.length ≤ limit :=
  readGroupsFrom_sound limit limit 0 s gs b rest (Nat.zero_add _) h

/-! ## completeness of `read_groups` -/

/-- What may follow a run of groups: the end of the text or `::`. -/
def EndOK (rest : B) : Prop := rest = [] ∨ ∃ r, rest = 0x3A :: 0x3A :: r

/-- What may follow a single group: the end of the text or a colon. -/
def ColonOrEnd (u : B) : Prop := u = [] ∨ ∃ r, u = 0x3A :: r

theorem colonOrEnd_of_endOK {u : B} (h : EndOK u) : ColonOrEnd u := by
  rcases h with rfl | ⟨r, rfl⟩
  · exact Or.inl rfl
  · exact Or.inr ⟨_, rfl⟩

theorem stops_of_colonOrEnd (radix : Nat) {u : B} (h : ColonOrEnd u) : Stops radix u := by
  rcases h with rfl | ⟨r, rfl⟩
  · exact stops_nil _
  · exact stops_cons (not_isDigit_colon radix) _

/-- A continuation run is empty or starts with a colon. -/
theorem colonOrEnd_append {t : B} {gs : List Nat} {b : Bool} (ht : PiecesAt true t gs b) {rest : B}
    (hr : EndOK rest) : ColonOrEnd (t ++ rest) := by
  generalize hc : true = c at ht
  cases ht with
  | nil => exact colonOrEnd_of_endOK hr
  | v4 t a _ => subst hc; exact Or.inr ⟨_, rfl⟩
  | cons s g t gs b _ _ => subst hc; exact Or.inr ⟨_, rfl⟩

/-- A hex group followed by a colon or the end is not the start of a dotted quad. -/
theorem readIpv4_none_of_hex {s : B} (hs : ∀ c ∈ s, IsHex c) {u : B} (hu : ColonOrEnd u) :
    readIpv4 (s ++ u) = none := by
  cases h : readIpv4 (s ++ u) with
  | none => rfl
  | some p =>
    obtain ⟨a, r⟩ := p
    have e := (readIpv4_iff.mp h).1
    rw [displayIpv4_eq] at e
    -- the first byte after the leading hex digits is a colon on one side and a dot on the other
    have := digits_run_unique e hs (stops_of_colonOrEnd 16 hu)
      (fun c hc => isHex_of_isDig (StdInt.dec_isDig _ c hc)) (stops_cons not_isHex_dot _)
    rcases hu with rfl | ⟨r', rfl⟩
    · cases this
    · exact absurd (List.cons.inj this).1 (by decide)

/-- At the end of a run of groups neither kind of piece can be read, in any slot. -/
theorem readSeparator_endOK {α : Type} {inner : B → Option (α × B)} (hin : ∀ u, ColonOrEnd u → inner u = none)
    (i : Nat) {rest : B} (he : EndOK rest) : readSeparator 0x3A i inner rest = none := by
  cases i with
  | zero => rw [readSeparator_zero]; exact hin _ (colonOrEnd_of_endOK he)
  | succ i =>
    rcases he with rfl | ⟨r, rfl⟩
    · simp [readSeparator, readGivenChar]
    · rw [readSeparator_succ_cons]; exact hin _ (Or.inr ⟨r, rfl⟩)

/-- So the reader stops there and restores its state. -/
theorem readGroupsFrom_endOK (limit fuel i : Nat) {rest : B} (he : EndOK rest) :
    readGroupsFrom limit fuel i rest = ([], false, rest) := by
  cases fuel with
  | zero => rfl
  | succ fuel =>
    have hv4 := readSeparator_endOK (inner := readIpv4)
      (fun u hu => readIpv4_none_of_hex (s := []) (by simp) hu) i he
    have hhex := readSeparator_endOK (inner := readHex16)
      (fun u hu => readNumber_stops (stops_of_colonOrEnd 16 hu)) i he
    simp only [readGroupsFrom, hv4, hhex, ite_self]

theorem readGroupsFrom_complete (limit : Nat) {c : Bool} {t : B} {gs : List Nat} {b : Bool}
    (h : PiecesAt c t gs b) : ∀ (fuel i : Nat) (rest : B), c = decide (0 < i) → i + fuel = limit →
      gs.length ≤ fuel → EndOK rest → readGroupsFrom limit fuel i (t ++ rest) = (gs, b, rest) := by
  induction h with
  | nil c =>
    intro fuel i rest _ _ _ he
    exact readGroupsFrom_endOK limit fuel i he
  | v4 c t a ht =>
    intro fuel i rest hc hlim hlen he
    cases fuel with
    | zero => cases hlen
    | succ fuel =>
      have hlt : i + 1 < limit := by
        simp only [v4Groups, List.length_cons, List.length_nil] at hlen; omega
      rw [(ipv4Text_iff_display _ _).mp ht, hc, List.append_assoc, readGroupsFrom]
      simp only [hlt, if_true, readSeparator_sepB,
        readIpv4_iff.mpr ⟨rfl, stops_of_colonOrEnd 10 (colonOrEnd_of_endOK he)⟩]
      rfl
  | cons c s g t gs b hg ht ih =>
    intro fuel i rest hc hlim hlen he
    cases fuel with
    | zero => cases hlen
    | succ fuel =>
      have hcoe := colonOrEnd_append ht he
      have hrec := ih fuel (i + 1) rest rfl ((Nat.add_right_comm i 1 fuel).trans hlim)
        (Nat.le_of_succ_le_succ hlen) he
      rw [hc, List.append_assoc, List.append_assoc, readGroupsFrom]
      simp only [readSeparator_sepB, readIpv4_none_of_hex (hexGroup_isHex hg) hcoe, ite_self,
        (readHex16_iff _ _ _).mpr ⟨s, rfl, hg, stops_of_colonOrEnd 16 hcoe⟩, hrec]

theorem readGroups_complete {limit : Nat} {t : B} {gs : List Nat} {b : Bool}
    (h : PiecesAt false t gs b) (hlen : gs.length ≤ limit) {rest : B} (he : EndOK rest) :
    readGroups limit (t ++ rest) = (gs, b, rest) :=
  readGroupsFrom_complete limit h limit 0 rest (by simp) (by omega) hlen he

/-! ## `read_ipv6_addr` -/

theorem ipv6Pieces_length {s : B} {gs : List Nat} (h : Ipv6Pieces s gs) : gs.length = 8 := by
  cases h with
  | full _ _ _ hl => exact hl
  | compressed h hs t ts _ _ hl =>
    simp only [List.length_append, List.length_replicate]; omega

theorem readIpv6_sound {s : B} {gs : List Nat} (h : readIpv6 s = some (gs, [])) : Ipv6Pieces s gs := by
  revert h
  fun_cases readIpv6 s
  case case1 head _ s1 hr h8 =>
    -- all eight groups in one run
    rintro ⟨⟩
    obtain ⟨t, rfl, hp, -⟩ := readGroups_sound hr
    rw [List.append_nil]
    exact .full _ _ (tail_of_piecesAt hp) (eq_of_beq h8)
  case case5 head f s1 hr h8 hf s2 hc1 s3 hc2 limit tail _ s4 hr2 =>
    -- fewer groups, `::`, and a second run
    rintro ⟨⟩
    obtain ⟨t, rfl, hp, hl⟩ := readGroups_sound hr
    obtain ⟨t2, rfl, hp2, hl2⟩ := readGroups_sound hr2
    rw [readGivenChar_eq_some_iff.mp hc1, readGivenChar_eq_some_iff.mp hc2, List.append_nil]
    rw [Bool.not_eq_true] at hf
    subst hf
    have := Ipv6Pieces.compressed t head t2 tail (head_of_piecesAt hp) (tail_of_piecesAt hp2)
      (by simp only [beq_iff_eq] at h8; omega)
    simpa [COLON, List.append_assoc] using this
  -- on the other paths nothing is returned
  all_goals nofun

theorem readIpv6_complete {s : B} {gs : List Nat} (h : Ipv6Pieces s gs) : readIpv6 s = some (gs, []) := by
  cases h with
  | full _ _ ht hl =>
    obtain ⟨b, hp⟩ := piecesAt_of_tail ht
    have hr := readGroups_complete (limit := 8) hp (Nat.le_of_eq hl) (Or.inl rfl)
    rw [List.append_nil] at hr
    unfold readIpv6
    rw [hr]
    exact if_pos (beq_iff_eq.mpr hl)
  | compressed h hs t ts hh ht hl =>
    obtain ⟨b, hp2⟩ := piecesAt_of_tail ht
    have hr : readGroups 8 (h ++ [COLON, COLON] ++ t) = (hs, false, 0x3A :: 0x3A :: t) := by
      rw [List.append_assoc]
      exact readGroups_complete (piecesAt_of_head hh) (by omega) (Or.inr ⟨t, rfl⟩)
    have hr2 := readGroups_complete (limit := 8 - (hs.length + 1)) hp2 (by omega) (Or.inl rfl)
    rw [List.append_nil] at hr2
    have h8 : (hs.length == 8) = false := beq_false_of_ne (by omega)
    unfold readIpv6
    rw [hr]
    simp only [h8, Bool.false_eq_true, if_false, readGivenChar_eq_some_iff.mpr rfl, hr2]

/-- `read_ipv6_addr` consuming the whole input, against the grammar. -/
theorem readIpv6_iff (s : B) (gs : List Nat) : readIpv6 s = some (gs, []) ↔ Ipv6Pieces s gs :=
  ⟨readIpv6_sound, readIpv6_complete⟩

/-! ## `Ipv6Addr::from_str` -/

theorem groupsToOctets_eq (gs : List Nat) : groupsToOctets gs = Spec.V1.piecesOctets gs := rfl

theorem groupsToOctets_length (gs : List Nat) : (groupsToOctets gs).length = 2 * gs.length := by
  induction gs with
  | nil => rfl
  | cons g gs ih =>
    simp only [groupsToOctets, List.flatMap_cons, List.length_append, be16Bytes_length,
      List.length_cons] at ih ⊢
    omega

/-- `Ipv6Addr::from_str` accepts exactly the RFC 4291 section 2.2 text forms. -/
theorem parseIpv6_iff_text (s : B) (a : Ip6) : parseIpv6 s = some a ↔ Ipv6Text s a := by
  -- eight pieces are sixteen octets, so `FixB.ofList 16` keeps them
  have octets {gs : List Nat} (hp : Ipv6Pieces s gs) :
      (FixB.ofList 16 (groupsToOctets gs)).val = Spec.V1.piecesOctets gs :=
    FixB.ofList_val (by rw [groupsToOctets_length, ipv6Pieces_length hp])
  unfold parseIpv6
  constructor
  · split
    · rename_i gs hr
      rintro ⟨⟩
      exact ⟨gs, readIpv6_sound hr, octets (readIpv6_sound hr)⟩
    · nofun
  · rintro ⟨gs, hp, ha⟩
    rw [readIpv6_complete hp]
    exact congrArg some (Subtype.ext ((octets hp).trans ha.symm))

/-! ## the bytes and the pieces of an accepted text -/

theorem piecesAt_bytes {c : Bool} {u : B} {gs : List Nat} {b : Bool} (h : PiecesAt c u gs b) :
    ∀ x ∈ u, AddrByte x := by
  have hsep : ∀ c : Bool, ∀ x ∈ sepB c, AddrByte x := by
    rintro (_ | _) x hx
    · cases hx
    · exact .inr (.inl (List.mem_singleton.mp hx))
  induction h with
  | nil c => nofun
  | v4 c t a ht => exact List.forall_mem_append.mpr ⟨hsep c, (ipv4Text_iff_display t a).mp ht ▸ displayIpv4_bytes a⟩
  | cons c s g t gs b hg ht ih =>
    exact List.forall_mem_append.mpr ⟨hsep c,
      List.forall_mem_append.mpr ⟨fun x hx => .inl (hexGroup_isHex hg x hx), ih⟩⟩

theorem piecesAt_lt {c : Bool} {u : B} {gs : List Nat} {b : Bool} (h : PiecesAt c u gs b) :
    ∀ g ∈ gs, g < 65536 := by
  induction h with
  | nil c => nofun
  | v4 c t a ht =>
    exact List.forall_mem_cons.mpr ⟨be16_lt a.a a.b, List.forall_mem_cons.mpr ⟨be16_lt a.c a.d, nofun⟩⟩
  | cons c s g t gs b hg ht ih => exact List.forall_mem_cons.mpr ⟨hexGroup_lt hg, ih⟩

theorem ipv6Pieces_bytes {s : B} {gs : List Nat} (h : Ipv6Pieces s gs) : ∀ c ∈ s, AddrByte c := by
  cases h with
  | full _ _ ht _ =>
    rcases piecesAt_of_tail ht with ⟨b, hp⟩
    exact piecesAt_bytes hp
  | compressed h hs t ts hh ht _ =>
    rcases piecesAt_of_tail ht with ⟨b, hp2⟩
    have hcc : ∀ c ∈ [COLON, COLON], AddrByte c :=
      fun c hc => .inr (.inl (List.eq_of_mem_replicate (n := 2) hc))
    exact List.forall_mem_append.mpr
      ⟨List.forall_mem_append.mpr ⟨piecesAt_bytes (piecesAt_of_head hh), hcc⟩, piecesAt_bytes hp2⟩

/-- The eight pieces of an accepted text are 16-bit values. -/
theorem ipv6Pieces_lt {s : B} {gs : List Nat} (h : Ipv6Pieces s gs) : ∀ g ∈ gs, g < 65536 := by
  cases h with
  | full _ _ ht _ =>
    rcases piecesAt_of_tail ht with ⟨b, hp⟩
    exact piecesAt_lt hp
  | compressed h hs t ts hh ht _ =>
    rcases piecesAt_of_tail ht with ⟨b, hp2⟩
    have hz {n : Nat} : ∀ g ∈ List.replicate n 0, g < 65536 := fun g hg => by
      rw [List.eq_of_mem_replicate hg]; decide
    exact List.forall_mem_append.mpr
      ⟨List.forall_mem_append.mpr ⟨piecesAt_lt (piecesAt_of_head hh), hz⟩, piecesAt_lt hp2⟩

/-! ## No text is an address of both families -/

theorem ipv6Pieces_colon {s : B} {gs : List Nat} (h : Ipv6Pieces s gs) : COLON ∈ s := by
  cases h with
  | full s gs ht h8 =>
    cases ht with
    | empty => simp at h8
    | groups s gs hg => cases hg <;> simp at h8 ⊢
    | v4 s a _ => simp [v4Groups] at h8
    | groupsV4 s gs t a _ _ => simp
  | compressed h hs t ts _ _ _ => simp

theorem displayIpv4_no_colon (a : Ip4) : COLON ∉ displayIpv4 a := by
  intro h
  rcases displayIpv4_charset a _ h with h | h
  · exact absurd h (by decide)
  · exact absurd h (by decide)

/-- No text is accepted by both `Ipv4Addr::from_str` and `Ipv6Addr::from_str`. -/
theorem not_both_families {s : B} {a : Ip4} {b : Ip6} (h4 : parseIpv4 s = some a)
    (h6 : parseIpv6 s = some b) : False := by
  rw [parseIpv4_iff] at h4
  obtain ⟨gs, hp, -⟩ := (parseIpv6_iff_text s b).mp h6
  subst h4
  exact displayIpv4_no_colon a (ipv6Pieces_colon hp)

end StdNet

namespace V1

theorem parseIpv6_none_of_spec {s : B} (h : ∀ a, ¬ Spec.V1.Ipv6Text s a) : StdNet.parseIpv6 s = none :=
  Option.eq_none_iff_forall_ne_some.mpr fun a hp => h a ((StdNet.parseIpv6_iff_text s a).mp hp)

theorem not_ipv6Text_of_none {s : B} (h : StdNet.parseIpv6 s = none) (a : Ip6) : ¬ Spec.V1.Ipv6Text s a := by
  intro ht; rw [(StdNet.parseIpv6_iff_text s a).mpr ht] at h; cases h

theorem ipv6Text_sepFree {s : B} {a : Ip6} (h : Spec.V1.Ipv6Text s a) : sepFree s := by
  obtain ⟨gs, hp, -⟩ := h
  exact sepFree_of_addrBytes (StdNet.ipv6Pieces_bytes hp)

end V1
