import PppModel.Lemmas.V1Window

/-!
# A terminated header never yields an incomplete result

`NotInc r`: the verdict `r` does not ask for more input.  `parse_header` answers `NotInc` once the
byte after the first CR is there (`parseHeader_notInc_of_terminated`, stage by stage).  The second
half carries this through the window to the entry points: which inputs can still get an incomplete
verdict from them (`frozen_notInc`, `incomplete_ge_107`).  C18 rests on this file.
-/

namespace V1

/-- The result is not flagged incomplete. -/
def NotInc (r : Except ParseError Header) : Prop := Auto.isIncompleteV1Str r = false

theorem notInc_ok (h : Header) : NotInc (.ok h) := rfl

theorem notInc_error {e : ParseError} (he : e.isIncomplete = false) : NotInc (.error e) := by
  simp [NotInc, Auto.isIncompleteV1Str, he]

theorem finish_term_notInc (header : B) (a : Addresses) (rest : List B) (ht : terminated header = true) :
    NotInc (finish header a rest) := by
  unfold finish
  split
  · simp [ht]; exact notInc_error rfl
  · split
    · exact notInc_error rfl
    · exact notInc_ok _

theorem tcpBranch_notInc {α : Type} (f : B → Option α) (mk : α → α → UInt16 → UInt16 → Addresses)
    {w : B} (rest : List B) (ht : terminated w = true) : NotInc (tcpBranch f mk w rest) := by
  -- on a terminated header no field is missing
  obtain ⟨⟨sa, da, sp, dp, rest'⟩, hr⟩ := takeFields_term rest
  rw [tcpBranch_of_fields (ht.symm ▸ hr)]
  split
  · exact notInc_error rfl
  split
  · exact notInc_error rfl
  split
  · exact notInc_error rfl
  split
  · exact notInc_error rfl
  · exact finish_term_notInc _ _ _ ht

/-- The one incomplete verdict `afterProto` can give on a terminated header is for an empty
protocol field that is the last part. -/
theorem afterProto_notInc {w proto : B} {rest : List B} (ht : terminated w = true)
    (hne : (proto.isEmpty && rest.isEmpty) = false) : NotInc (afterProto w proto rest) := by
  by_cases h4 : proto = TCP4
  · rw [h4, afterProto_tcp4]; exact tcpBranch_notInc _ _ _ ht
  by_cases h6 : proto = TCP6
  · rw [h6, afterProto_tcp6]; exact tcpBranch_notInc _ _ _ ht
  by_cases hu : proto = UNKNOWN
  · rw [hu, afterProto_unknown, ht]
    cases CRLF.isSuffixOf w
    · exact notInc_error rfl
    · exact notInc_ok _
  · rw [afterProto_other h4 h6 hu, hne, ht, if_neg Bool.false_ne_true, if_neg (by simp)]
    exact notInc_error rfl

/-- Once the byte after the first CR is there, the verdict of `parse_header` is final. -/
theorem parseHeader_notInc_of_terminated {w : B} (ht : terminated w = true) : NotInc (parseHeader w) := by
  by_cases hlen : 107 < w.length
  · rw [parseHeader_long hlen]; exact notInc_error rfl
  rcases splitN_cases 5 w with ⟨hsf, -⟩ | ⟨pfx, c, r, hp, -, rfl, hs⟩
  · rw [terminated_of_crFree hsf.crFree] at ht; cases ht
  · obtain ⟨proto, rest, hr⟩ := List.exists_cons_of_ne_nil (splitN_ne_nil 5 r)
    rw [hr] at hs
    rw [parseHeader_of_parts (Nat.not_lt.mp hlen) hs]
    split
    · refine afterProto_notInc ht (Bool.eq_false_iff.mpr fun h => ?_)
      -- an empty last protocol field: the header is `pfx ++ [c]`, which is not terminated
      simp only [Bool.and_eq_true, List.isEmpty_iff] at h
      rw [h.1, h.2] at hr
      rw [(splitN_eq_singleton hr).1, terminated_append_one hp.crFree] at ht
      cases ht
    · exact notInc_error rfl

/-- **Core of C18.** On a window whose first CR is followed by a byte, `parse_header`
returns a success or a terminal error. -/
theorem parseHeader_terminated (a : B) (b : UInt8) (ha : crFree a) :
    NotInc (parseHeader (a ++ [CR, b])) :=
  parseHeader_notInc_of_terminated (terminated_window ha)

/-! ## Which windows still get an incomplete verdict -/

/-- An incomplete verdict of the byte entry point is an incomplete verdict of `parse_header`
on the window. -/
theorem parseBytes_incomplete {x : B} (h : Auto.isIncompleteV1 (parseBytes x) = true) :
    ∃ n, windowLength x = some n ∧ ¬ NotInc (parseHeader (x.take n)) := by
  cases hw : windowLength x with
  | none => rw [parseBytes_of_window_none hw] at h; cases h
  | some n =>
    refine ⟨n, rfl, fun hn => ?_⟩
    rw [parseBytes_of_window hw] at h
    split at h
    · rw [isIncompleteV1_mapError, hn] at h; cases h
    · cases h

theorem parseStr_incomplete {x : B} (h : Auto.isIncompleteV1Str (parseStr x) = true) :
    ∃ n, windowLength x = some n ∧ ¬ NotInc (parseHeader (x.take n)) := by
  cases hw : windowLength x with
  | none => rw [parseStr_of_window_none hw] at h; cases h
  | some n =>
    refine ⟨n, rfl, fun hn => ?_⟩
    rw [parseStr_of_window hw] at h
    split at h
    · exact absurd h (by rw [hn]; simp)
    · cases h

/-- The window of a frozen input (if there is one) is terminated. -/
theorem frozen_window {x : B} (h : frozen x) {n : Nat} (hw : windowLength x = some n) :
    terminated (x.take n) = true := by
  rcases h with ⟨c, h1, h2⟩ | ⟨h1, h2⟩
  · rw [windowLength_frozen_cr h1 h2] at hw
    cases hw
    obtain ⟨a, b, ha, -, e⟩ := window_shape h1 h2
    rw [e]; exact terminated_window ha
  · rw [windowLength_long h1 h2] at hw; cases hw

theorem frozen_notInc {x : B} (h : frozen x) {n : Nat} (hw : windowLength x = some n) :
    NotInc (parseHeader (x.take n)) :=
  parseHeader_notInc_of_terminated (frozen_window h hw)

/-- Among the inputs of 107 bytes or more, `parse_header` is still incomplete on the window only
when the input has exactly 107 bytes and its first CR is the last of them. -/
theorem incomplete_ge_107 {x : B} {n : Nat} (hl : 107 ≤ x.length) (hw : windowLength x = some n)
    (hn : ¬ NotInc (parseHeader (x.take n))) : x.length = 107 ∧ firstCR x = some 106 := by
  have hnf : ¬ frozen x := fun hf => hn (frozen_notInc hf hw)
  cases hcr : firstCR x with
  | none => exact absurd (.inr ⟨hcr, hl⟩) hnf
  | some c =>
    have hc : ¬ c + 1 < x.length := fun h => hnf (.inl ⟨c, hcr, h⟩)
    rw [windowLength_cr_last hcr hc] at hw
    cases hw
    have hlen : ¬ 107 < x.length := fun h => hn (by
      rw [parseHeader_long (by rwa [List.take_length])]; exact notInc_error rfl)
    have hx : x.length = 107 := Nat.le_antisymm (Nat.not_lt.mp hlen) hl
    have := firstCR_lt hcr
    rw [hx] at hc this
    exact ⟨hx, congrArg some (Nat.le_antisymm (Nat.le_of_lt_succ this) (Nat.le_of_lt_succ (Nat.not_lt.mp hc)))⟩

end V1
