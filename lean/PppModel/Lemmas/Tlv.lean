import PppModel.Spec.Tlv
import PppModel.Lemmas.Bytes

/-!
# One step of the TLV iterator, and the reference walk

`Iter.next` by the shape of the bytes from the cursor on (`Iter.next_eq`, the three cases of
`Spec.Tlv.walkFrom`), and what a yielded item says about the two states (`Iter.next_some`), hence that
repeated calls reach `None` (`iterate_ends`); the loop over `next` is the reference walk
(`Iter.run_eq_walkFrom`, `tlvCollect_eq_walk`). What the walk itself guarantees
(`walkFrom_split`, `walkFrom_error_last`, `walkFrom_count`, `walkFrom_values_le`) is proved by its own
induction principle, once each. In the other direction, the walk of an encoded list of TLVs is that
list (`walkFrom_encoded`).
-/

namespace V2
open Spec.Tlv

/-- One TLV on the wire, with the length field as the two bytes that decode to it. -/
theorem enc_of_be16 (k hi lo : UInt8) (v : B) (h : v.length = be16 hi lo) :
    enc ⟨k, v⟩ = k :: hi :: lo :: v := by
  show k :: (be16Bytes v.length ++ v) = _
  rw [h, be16Bytes_be16]
  rfl

theorem Iter.next_eq (it : Iter) :
    it.next =
      match it.bytes.drop it.offset with
      | [] => none
      | k :: hi :: lo :: rest =>
        if rest.length < be16 hi lo then
          some (.error (.invalidTLV k (be16 hi lo)), { it with offset := it.bytes.length })
        else
          some (.ok { kind := k, value := rest.take (be16 hi lo) },
            { it with offset := it.offset + (3 + be16 hi lo) })
      | _ => some (.error (.leftovers it.bytes.length), { it with offset := it.bytes.length }) := by
  unfold Iter.next
  by_cases hoff : it.offset ≥ it.bytes.length
  · rw [if_pos hoff, List.drop_eq_nil_iff.mpr hoff]
  rw [if_neg hoff]
  rcases hd : it.bytes.drop it.offset with _ | ⟨k, _ | ⟨hi, _ | ⟨lo, rest⟩⟩⟩
  · exact absurd (List.drop_eq_nil_iff.mp hd) hoff
  · rfl
  · rfl
  · simp only [minTlvLen, List.length_cons, byteAt_cons_zero, byteAt_cons_succ, List.take_succ_cons,
      List.drop_succ_cons, List.drop_zero, Nat.add_comm 3, Nat.add_lt_add_iff_right,
      show ¬ rest.length + 1 + 1 + 1 < 3 from Nat.not_lt.mpr (Nat.le_add_left 3 _), if_false]

theorem Iter.next_none_iff (it : Iter) : it.next = none ↔ it.bytes.length ≤ it.offset := by
  rw [it.next_eq, ← List.drop_eq_nil_iff]
  split
  · simp only [*]
  · split <;> simp only [reduceCtorEq, *]
  · simp only [reduceCtorEq, false_iff]; assumption

/-- Everything a yielded item says about the two states: same buffer, strict progress within the
buffer, the cursor at the end after an error, and for an item the bytes it was read from. -/
theorem Iter.next_some {it it' : Iter} {i : Item} (h : it.next = some (i, it')) :
    it'.bytes = it.bytes ∧ it.offset < it'.offset ∧ it'.offset ≤ it.bytes.length ∧
    match i with
    | .error _ => it'.offset = it.bytes.length
    | .ok t => it.bytes.drop it.offset = enc t ++ it.bytes.drop it'.offset ∧ t.value.length < 65536 ∧
        it'.offset = it.offset + (3 + t.value.length) := by
  have hlt : it.offset < it.bytes.length := by
    apply Nat.lt_of_not_le; intro hle; rw [(it.next_none_iff).mpr hle] at h; cases h
  rw [it.next_eq] at h
  split at h
  · cases h
  · rename_i k hi lo rest hd
    rcases ite_eq_cases h with ⟨-, h⟩ | ⟨hge, h⟩
    · cases h; exact ⟨rfl, hlt, Nat.le_refl _, rfl⟩
    · cases h
      have hv : (rest.take (be16 hi lo)).length = be16 hi lo :=
        List.length_take_of_le (Nat.le_of_not_lt hge)
      have hle : it.offset + (3 + be16 hi lo) ≤ it.bytes.length := by
        rw [← List.take_append_drop it.offset it.bytes, hd, List.length_append,
          List.length_take_of_le (Nat.le_of_lt hlt), Nat.add_comm 3]
        exact Nat.add_le_add_left (Nat.add_le_add_right (Nat.le_of_not_lt hge) 3) _
      refine ⟨rfl, Nat.lt_add_of_pos_right (Nat.add_pos_left (by decide) _), hle, ?_,
        hv.symm ▸ be16_lt hi lo, by rw [hv]⟩
      rw [enc_of_be16 k hi lo _ hv, hd, ← List.drop_drop, hd, Nat.add_comm 3]
      simp only [List.cons_append, List.drop_succ_cons, List.take_append_drop]
  · cases h; exact ⟨rfl, hlt, Nat.le_refl _, rfl⟩

/-- After an error item the cursor is at the end, so the iterator is exhausted. -/
theorem next_after_error (it it' : Iter) (e : ParseError)
    (h : it.next = some (.error e, it')) : it'.next = none := by
  obtain ⟨hb, -, -, ho⟩ := Iter.next_some h
  exact (Iter.next_none_iff _).mpr (by rw [hb]; exact Nat.le_of_eq ho.symm)

/-- Every item takes three bytes or more, so from a state with fewer than `3 * m` bytes left, at
most `m` successful calls of `next` lead to a state in which `next` returns `None`. -/
theorem iterate_ends (m : Nat) (it : Iter) (h : it.bytes.length < it.offset + 3 * m) :
    ∃ k, k ≤ m ∧ ∃ it', Iter.iterate k it = some it' ∧ it'.next = none := by
  induction m generalizing it with
  | zero => exact ⟨0, Nat.le_refl _, it, rfl, (Iter.next_none_iff it).mpr (Nat.le_of_lt h)⟩
  | succ m ih =>
    cases hnx : it.next with
    | none => exact ⟨0, Nat.zero_le _, it, rfl, hnx⟩
    | some p =>
      obtain ⟨i, it1⟩ := p
      cases i with
      | error e =>
        exact ⟨1, Nat.le_add_left .., it1, by rw [Iter.iterate, hnx]; rfl,
          next_after_error it it1 e hnx⟩
      | ok t =>
        obtain ⟨hb, -, -, -, -, ho⟩ := Iter.next_some hnx
        obtain ⟨k, hk, it', hit, hnone⟩ := ih it1 (by
          rw [hb, ho, Nat.add_assoc, Nat.add_comm _ (3 * m)]
          exact Nat.lt_of_lt_of_le h (Nat.add_le_add_left (Nat.add_le_add_left (Nat.le_add_right 3 _) _) _))
        exact ⟨k + 1, Nat.succ_le_succ hk, it', by rw [Iter.iterate, hnx]; exact hit, hnone⟩

theorem Iter.run_eq_walkFrom (fuel : Nat) (it : Iter) (hf : it.bytes.length - it.offset < fuel) :
    Iter.run fuel it = walkFrom it.bytes.length (it.bytes.drop it.offset) := by
  induction fuel generalizing it with
  | zero => cases hf
  | succ fuel ih =>
    rw [Iter.run, it.next_eq]
    -- after an error the cursor is at the end, so the next step stops
    have hend : Iter.run fuel { it with offset := it.bytes.length } = [] := by
      cases fuel with
      | zero => rfl
      | succ n => rw [Iter.run, (Iter.next_none_iff _).mpr (Nat.le_refl _)]
    rcases hd : it.bytes.drop it.offset with _ | ⟨k, _ | ⟨hi, _ | ⟨lo, rest⟩⟩⟩
    · rw [walkFrom]
    · simp only [walkFrom, hend]
    · simp only [walkFrom, hend]
    · simp only [walkFrom, be16]
      by_cases hlt : rest.length < hi.toNat * 256 + lo.toNat
      · simp only [hlt, if_true, hend]
      · have hoff : it.offset < it.bytes.length := Nat.lt_of_not_le fun h => by
          rw [List.drop_eq_nil_iff.mpr h] at hd; cases hd
        simp only [hlt, if_false]
        rw [ih]
        · simp only [← List.drop_drop, hd, Nat.add_comm 3, List.drop_succ_cons]
        · -- the cursor moves, so the distance to the end shrinks
          exact Nat.lt_of_lt_of_le (Nat.sub_lt_sub_left hoff (Nat.lt_add_of_pos_right (Nat.add_pos_left (by decide) _)))
            (Nat.le_of_lt_succ hf)

/-- From the start of a section, any fuel beyond its length gives the reference walk. -/
theorem Iter.run_ofBytes (bs : B) (fuel : Nat) (h : bs.length < fuel) :
    Iter.run fuel (Iter.ofBytes bs) = walk bs :=
  Iter.run_eq_walkFrom fuel (Iter.ofBytes bs) h

theorem tlvCollect_eq_walk (bs : B) : tlvCollect bs = walk bs :=
  Iter.run_ofBytes bs _ (Nat.lt_succ_self _)

/-- The section of a header is walked the same way. -/
theorem Header.tlvs_eq_walk (h : Header) : h.tlvs = walk h.tlvBytes := tlvCollect_eq_walk _

/-! ## The reference walk -/

/-- The section is the encodings of the decoded items followed by a remainder, and the remainder
is empty exactly when no error item was produced. -/
theorem walkFrom_split (total : Nat) (bs : B) :
    ∃ r, okBytes (walkFrom total bs) ++ r = bs ∧
      (r = [] ↔ ∀ it ∈ walkFrom total bs, isErr it = false) := by
  fun_induction walkFrom total bs with
  | case1 => exact ⟨[], rfl, fun _ _ h => (nomatch h), fun _ => rfl⟩
  | case2 t hi lo rest n hlt => exact ⟨_, rfl, nofun, fun h => nomatch h _ (List.mem_singleton_self _)⟩
  | case3 t hi lo rest n hge ih =>
    obtain ⟨r, hr, hiff⟩ := ih
    refine ⟨r, ?_, by rw [List.forall_mem_cons, ← hiff]; exact (and_iff_right rfl).symm⟩
    rw [okBytes, enc_of_be16 t hi lo (rest.take n) (List.length_take_of_le (Nat.le_of_not_lt hge))]
    simp only [List.cons_append, List.append_assoc, hr, List.take_append_drop]
  | case4 bs h1 h2 =>
    exact ⟨bs, rfl, fun h => absurd h h1, fun h => nomatch h _ (List.mem_singleton_self _)⟩

private theorem post_nil_of_singleton {α} {x y : α} {pre post : List α}
    (h : [x] = pre ++ y :: post) : post = [] := by
  cases pre with
  | nil => exact (List.cons.inj h).2.symm
  | cons p pre => exact nomatch (List.nil_eq_append_iff.mp (List.cons.inj h).2).2

/-- At most one error item, and nothing after it. -/
theorem walkFrom_error_last (total : Nat) (bs : B) :
    ∀ pre e post, walkFrom total bs = pre ++ .error e :: post → post = [] := by
  fun_induction walkFrom total bs with
  | case1 => intro pre e post h; cases pre <;> cases h
  | case2 t hi lo rest n hlt => exact fun _ _ _ => post_nil_of_singleton
  | case3 t hi lo rest n hge ih =>
    intro pre e post h
    cases pre with
    | nil => cases h
    | cons p pre => exact ih pre e post (List.cons.inj h).2
  | case4 bs h1 h2 => exact fun _ _ _ => post_nil_of_singleton

/-- A section of `n` bytes yields at most `n / 3 + 1` items. -/
theorem walkFrom_count (total : Nat) (bs : B) : (walkFrom total bs).length ≤ bs.length / 3 + 1 := by
  fun_induction walkFrom total bs with
  | case1 => exact Nat.le_add_left ..
  | case2 t hi lo rest n hlt => exact Nat.le_add_left ..
  | case3 t hi lo rest n hge ih =>
    -- the item took three bytes or more, and `m / 3 + 1 = (m + 3) / 3`
    rw [List.length_drop, ← Nat.add_div_right _ (by decide)] at ih
    exact Nat.succ_le_succ (Nat.le_trans ih (Nat.div_le_div_right (Nat.add_le_add_right (Nat.sub_le ..) 3)))
  | case4 bs h1 h2 => exact Nat.le_add_left ..

theorem tlv_count_bound (bs : B) : (tlvCollect bs).length ≤ bs.length / 3 + 1 := by
  rw [tlvCollect_eq_walk]; exact walkFrom_count _ _

/-- Every decoded value fits the 16-bit length field it was read with. -/
theorem walkFrom_values_le (total : Nat) (bs : B) :
    ∀ it ∈ walkFrom total bs, ∀ t, it = .ok t → t.value.length ≤ 65535 := by
  fun_induction walkFrom total bs with
  | case1 => intro it h; cases h
  | case2 t hi lo rest n hlt => intro it h t' ht; cases List.mem_singleton.mp h; cases ht
  | case3 t hi lo rest n hge ih =>
    refine List.forall_mem_cons.mpr ⟨fun t' ht => ?_, ih⟩
    cases ht
    exact Nat.le_trans (List.length_take_le ..) (Nat.le_of_lt_succ (be16_lt hi lo))
  | case4 bs h1 h2 => intro it h t' ht; cases List.mem_singleton.mp h; cases ht

/-! ## Encoded sections -/

/-- The walk of the encodings of a list of TLVs gives them back. -/
theorem walkFrom_encoded (total : Nat) (tlvs : List Tlv) (hv : ∀ t ∈ tlvs, t.value.length ≤ 65535) :
    walkFrom total (tlvs.flatMap enc) = tlvs.map .ok := by
  induction tlvs with
  | nil => rw [List.flatMap_nil, walkFrom]; rfl
  | cons t ts ih =>
    rw [List.forall_mem_cons] at hv
    have h1 := be16_be16Bytes _ (Nat.lt_succ_of_le hv.1)
    rw [be16] at h1
    simp only [List.flatMap_cons, enc, List.cons_append, walkFrom, h1, List.length_append,
      Nat.not_lt.mpr (Nat.le_add_right ..), if_false, List.take_left', List.drop_left', ih hv.2, List.map_cons]

/-- A TLV section that fits in `n` bytes, behind `a` others, has no value longer than `n`: a fit of
the whole section bounds every value. -/
theorem values_le_of_fit (tlvs : List Tlv) {a n : Nat} (hfit : a + (tlvs.flatMap enc).length ≤ n) :
    ∀ t ∈ tlvs, t.value.length ≤ n := by
  induction tlvs generalizing a with
  | nil => intro t ht; cases ht
  | cons t ts ih =>
    have hlen : (enc t).length = t.value.length + 3 := rfl
    rw [List.flatMap_cons, List.length_append, hlen, ← Nat.add_assoc] at hfit
    exact List.forall_mem_cons.mpr
      ⟨Nat.le_trans (Nat.le_trans (Nat.le_add_right _ 3) (Nat.le_add_left _ a)) (Nat.le_of_add_right_le hfit),
        ih hfit⟩

end V2
