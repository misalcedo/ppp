import PppModel.Lemmas.V1Entry

/-!
# Version 1 never panics: the two entry points and `addresses_str`

`&input[..length]` on a `&str` panics when `length` is not a char boundary or is out of
range; on a `&[u8]` it panics when it is out of range.  The window length is at most
the input length, and the `&str` entry point slices only after its explicit
`is_char_boundary` check, so neither entry point panics.

`addresses_str` (a `usize` subtraction and two `&str` slices) is the one accessor with partial
operations.  A well-formed header is `PROXY`, a space, its own protocol keyword, a middle part
that is empty or starts with a space, and CR LF (`header_shape`); the slice ends are the two ends
of the middle part, which are character boundaries because an ASCII byte follows each of them
(`between_boundaries`).
-/

namespace V1

/-- `TryFrom<&str>` never panics (for every input that is a `&str`, though the proof
does not need validity: the slice is guarded by the explicit boundary check). -/
theorem parseStr_no_panic (x : B) (_hx : Utf8.valid x = true) : parseStrP x = .val (parseStr x) := by
  unfold parseStrP
  cases hw : windowLength x with
  | none => rw [parseStr_of_window_none hw]
  | some n =>
    rw [parseStr_of_window hw]
    cases hb : Utf8.isCharBoundary x n <;> simp [windowLength_le hw, hb]

/-- `TryFrom<&[u8]>` never panics. -/
theorem parseBytes_no_panic (x : B) : parseBytesP x = .val (parseBytes x) := by
  unfold parseBytesP
  cases hw : windowLength x with
  | none => rw [parseBytes_of_window_none hw]
  | some n =>
    rw [parseBytes_of_window hw]
    dsimp only
    rw [sliceToP_of_le (windowLength_le hw), Outcome.val_bind]
    cases Utf8.valid (x.take n)
    · rfl
    · cases parseHeader (x.take n) <;> rfl

/-! ## `addresses_str` -/

theorem PROXY_SP_length (p : B) : (PROXY ++ [SP] ++ p).length = PROXY.length + 1 + p.length := by
  simp only [List.length_append, List.length_cons, List.length_nil]

/-- The slice `header[start..end]` of `addresses_str` is what lies between the protocol
keyword and CR LF. -/
theorem slice_of_shape {h : Header} {between : B}
    (e : h.header = PROXY ++ [SP] ++ h.protocol ++ between ++ CRLF) :
    (h.header.take (h.header.length - CRLF.length)).drop (PROXY.length + 1 + h.protocol.length) =
      between := by
  rw [← PROXY_SP_length, e, List.length_append (bs := CRLF), Nat.add_sub_cancel, List.take_left,
    List.drop_left]

/-- In a valid text `pre ++ between ++ "\r\n"` where what follows `pre` starts with an ASCII byte,
both ends of `between` are character boundaries and `between` is itself valid. -/
theorem between_boundaries {pre between r : B} {c : UInt8} (hc : c < 0x80)
    (ecr : between ++ CRLF = c :: r) (hv : Utf8.valid (pre ++ between ++ CRLF) = true) :
    Utf8.isCharBoundary (pre ++ between ++ CRLF) pre.length = true ∧
      Utf8.isCharBoundary (pre ++ between ++ CRLF) (pre ++ between).length = true ∧
      Utf8.valid between = true := by
  obtain ⟨bend, vpre⟩ := Utf8.boundary_before_ascii (pre ++ between) CR [LF] hv (by decide)
  have e2 : pre ++ between ++ CRLF = pre ++ c :: r := by rw [List.append_assoc, ecr]
  rw [e2] at hv ⊢
  obtain ⟨bstart, vhead⟩ := Utf8.boundary_before_ascii pre c r hv hc
  exact ⟨bstart, e2 ▸ bend, Utf8.valid_of_append_left _ _ vpre vhead⟩

/-- On a valid header text of the shape above, the panic-aware accessor returns normally. -/
theorem addressesStrP_of_shape {h : Header} {between : B}
    (e : h.header = PROXY ++ [SP] ++ h.protocol ++ between ++ CRLF)
    (hb : between = [] ∨ ∃ text, between = SP :: text) (hv : Utf8.valid h.header = true) :
    h.addressesStrP = .val h.addressesStr := by
  have hslice := slice_of_shape e
  obtain ⟨c, r, hc, ecr⟩ : ∃ c r, c < 0x80 ∧ between ++ CRLF = c :: r := by
    rcases hb with rfl | ⟨t, rfl⟩
    · exact ⟨CR, [LF], by decide, rfl⟩
    · exact ⟨SP, t ++ CRLF, by decide, rfl⟩
  obtain ⟨bstart, bend, vbetween⟩ := between_boundaries hc ecr (e ▸ hv)
  -- the two slice ends, as `addresses_str` computes them
  have hend : h.header.length - CRLF.length = (PROXY ++ [SP] ++ h.protocol ++ between).length := by
    rw [e, List.length_append (bs := CRLF)]; exact Nat.add_sub_cancel ..
  rw [← e, ← hend] at bend
  rw [← e, PROXY_SP_length] at bstart
  have h2 : CRLF.length ≤ h.header.length := by rw [e, List.length_append (bs := CRLF)]; exact Nat.le_add_left ..
  have hse : PROXY.length + 1 + h.protocol.length ≤ h.header.length - CRLF.length := by
    rw [hend, List.length_append, PROXY_SP_length]; exact Nat.le_add_right ..
  unfold Header.addressesStrP Header.addressesStr
  rw [subP_of_le h2]
  simp only [Outcome.val_bind, bstart, bend, Bool.and_self, Bool.not_true, Bool.false_eq_true, if_false]
  rw [sliceP_of_le hse (Nat.sub_le ..)]
  simp only [Outcome.val_bind, hslice]
  rcases hb with rfl | ⟨t, rfl⟩
  · rfl
  · have b1 : Utf8.isCharBoundary (SP :: t) 1 = true := Utf8.boundary_after_ascii [] SP t (by decide) vbetween
    have hd : ((SP :: t).head? == some SP) = true := rfl
    rw [if_pos hd, if_pos hd, b1]
    exact sliceFromP_of_le (x := SP :: t) (Nat.le_add_left 1 _)

/-- On every well-formed header whose text is a `&str`, `addresses_str` returns normally with the
value of the pure model. -/
theorem addressesStr_no_panic (h : Header) (hl : Spec.V1.Line ip6Model h.header h.addresses)
    (hv : Utf8.valid h.header = true) : h.addressesStrP = .val h.addressesStr := by
  obtain ⟨between, e, hb, -⟩ := header_shape h hl
  exact addressesStrP_of_shape e hb hv

/-- On a header returned by `TryFrom<&[u8]>`; validity of the header text comes from `parseBytes`'
own check. -/
theorem parseBytes_addressesStr_no_panic {x : B} {h : Header} (hp : parseBytes x = .ok h) :
    h.addressesStrP = .val h.addressesStr := by
  obtain ⟨-, -, -, hv, hl⟩ := parseBytes_ok_line hp
  exact addressesStr_no_panic h hl hv

/-- On a header returned by `TryFrom<&str>`, the input being a `&str`. -/
theorem parseStr_addressesStr_no_panic {x : B} {h : Header} (hx : Utf8.valid x = true)
    (hp : parseStr x = .ok h) : h.addressesStrP = .val h.addressesStr := by
  obtain ⟨-, -, -, hl⟩ := parseStr_ok_line hp
  exact addressesStr_no_panic h hl (parseStr_ok_valid hx hp)

end V1
