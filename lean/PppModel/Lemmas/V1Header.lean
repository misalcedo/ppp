import PppModel.Lemmas.Bytes
import PppModel.Lemmas.V1Split

/-!
# `parse_header` in stages

`parseHeader` is one nested `if`/`match`.  It is cut here where every proof cuts it: after the
protocol field (`afterProto`, with the two address families as instances of one `tcpBranch`).
`parseHeader_eq` says the cut is faithful; the equations after it give `parseHeader` by the shape
of its input, down to a line given by its fields (`parseHeader_protoLine`,
`parseHeader_tcpLine_fields`), and nothing else unfolds `parseHeader`.
-/

namespace V1

/-- The two address branches of `parse_header`, for either family. -/
def tcpBranch {α : Type} (f : B → Option α) (mk : α → α → UInt16 → UInt16 → Addresses)
    (w : B) (rest : List B) : Except ParseError Header :=
  match parseAddresses f rest (terminated w) with
  | .error e => .error e
  | .ok (sa, da, sp, dp, rest') => finish w (mk sa da sp dp) rest'

/-- `parse_header` after `PROXY` and the protocol field `proto`; `rest` are the remaining parts. -/
def afterProto (w proto : B) (rest : List B) : Except ParseError Header :=
  if proto = TCP4 then tcpBranch StdNet.parseIpv4 Addresses.newTcp4 w rest
  else if proto = TCP6 then tcpBranch StdNet.parseIpv6 Addresses.newTcp6 w rest
  else if proto = UNKNOWN then
    if CRLF.isSuffixOf w then .ok { header := w, addresses := .unknown }
    else if terminated w then .error .invalidSuffix
    else .error .missingNewLine
  else if proto.isEmpty && rest.isEmpty then .error .missingProtocol
  else if !proto.isEmpty && !(terminated w) && rest.isEmpty &&
      (proto.isPrefixOf TCP4 || proto.isPrefixOf UNKNOWN) then .error .partialHdr
  else .error .invalidProtocol

/-- The cut is faithful. -/
theorem parseHeader_eq (w : B) :
    parseHeader w =
      if w.isEmpty then .error .missingPrefix
      else if 107 < w.length then .error .headerTooLong
      else
        match splitN 7 w with
        | [] => .error .missingPrefix
        | pfx :: rest =>
          if !pfx.isEmpty && pfx.isPrefixOf PROXY && w == pfx then .error .partialHdr
          else if pfx ≠ PROXY then .error .invalidPrefix
          else
            match rest with
            | [] => .error .missingProtocol
            | proto :: rest => afterProto w proto rest := by
  unfold parseHeader
  rw [show PARTS = 7 from rfl]
  rcases splitN 7 w with _ | ⟨pfx, _ | ⟨proto, rest⟩⟩
  · rfl
  · rfl
  · unfold afterProto tcpBranch
    dsimp only
    generalize parseAddresses StdNet.parseIpv4 rest (terminated w) = r4
    generalize parseAddresses StdNet.parseIpv6 rest (terminated w) = r6
    cases r4 <;> cases r6 <;> rfl

/-! ## `parseHeader` by the shape of its input -/

theorem parseHeader_nil : parseHeader [] = .error .missingPrefix := rfl

theorem parseHeader_long {w : B} (h : 107 < w.length) : parseHeader w = .error .headerTooLong := by
  cases w with
  | nil => cases h
  | cons c cs => rw [parseHeader_eq]; exact if_pos h

/-- No separator at all: the input is its own first part. -/
theorem parseHeader_sepFree {w : B} (hsf : sepFree w) (hne : w ≠ []) (hlen : w.length ≤ 107) :
    parseHeader w = .error (if w.isPrefixOf PROXY then .partialHdr else .invalidPrefix) := by
  have hne' : w.isEmpty = false := by simpa using hne
  rw [parseHeader_eq, hne', if_neg (by simp), if_neg (Nat.not_lt.mpr hlen), splitN_sepFree 6 hsf]
  dsimp only
  -- the instance is named because the search for `ReflBEq UInt8` tries the order classes first
  have : ReflBEq UInt8 := (instLawfulBEq : LawfulBEq UInt8).toReflBEq
  rw [hne', beq_self_eq_true, Bool.not_false, Bool.true_and, Bool.and_true]
  cases hp : w.isPrefixOf PROXY with
  | true => rfl
  | false =>
    have : w ≠ PROXY := by rintro rfl; exact absurd hp (by decide)
    rw [if_neg Bool.false_ne_true, if_pos this, if_neg Bool.false_ne_true]

/-- At least two parts. -/
theorem parseHeader_of_parts {w pfx proto : B} {rest : List B} (hlen : w.length ≤ 107)
    (hs : splitN 7 w = pfx :: proto :: rest) :
    parseHeader w = if pfx = PROXY then afterProto w proto rest else .error .invalidPrefix := by
  obtain ⟨c, r, -, -, rfl, -⟩ := splitN_two hs
  -- the instance is named because the search for `LawfulBEq UInt8` tries the order classes first
  have : LawfulBEq UInt8 := instLawfulBEq
  have hne : ((pfx ++ c :: r) == pfx) = false :=
    beq_false_of_ne fun e => List.cons_ne_nil c r (List.append_right_eq_self.mp e)
  rw [parseHeader_eq, if_neg (by simp), if_neg (Nat.not_lt.mpr hlen), hs]
  dsimp only
  rw [hne, Bool.and_false, if_neg (by simp)]
  by_cases hp : pfx = PROXY
  · rw [if_neg (not_not_intro hp), if_pos hp]
  · rw [if_pos hp, if_neg hp]

/-- A first field other than `PROXY`, followed by a separator; whatever comes after it. -/
theorem parseHeader_bad_keyword {kw r : B} {c : UInt8} (hkw : sepFree kw) (hne : kw ≠ PROXY)
    (hc : isSep c = true) (hlen : (kw ++ c :: r).length ≤ 107) :
    parseHeader (kw ++ c :: r) = .error .invalidPrefix := by
  obtain ⟨proto, rest, hr⟩ := List.exists_cons_of_ne_nil (splitN_ne_nil 5 r)
  have hs : splitN 7 (kw ++ c :: r) = kw :: proto :: rest := by rw [splitN_append 5 hkw hc, hr]
  rw [parseHeader_of_parts hlen hs, if_neg hne]

/-! ## `afterProto` by protocol -/

theorem afterProto_tcp4 (w : B) (rest : List B) :
    afterProto w TCP4 rest = tcpBranch StdNet.parseIpv4 Addresses.newTcp4 w rest := if_pos rfl

theorem afterProto_tcp6 (w : B) (rest : List B) :
    afterProto w TCP6 rest = tcpBranch StdNet.parseIpv6 Addresses.newTcp6 w rest := by
  rw [afterProto, if_neg (by decide), if_pos rfl]

theorem afterProto_unknown (w : B) (rest : List B) :
    afterProto w UNKNOWN rest =
      if CRLF.isSuffixOf w then .ok { header := w, addresses := .unknown }
      else if terminated w then .error .invalidSuffix else .error .missingNewLine := by
  rw [afterProto, if_neg (by decide), if_neg (by decide), if_pos rfl]

theorem afterProto_other {w proto : B} {rest : List B} (h4 : proto ≠ TCP4) (h6 : proto ≠ TCP6)
    (hu : proto ≠ UNKNOWN) :
    afterProto w proto rest =
      if proto.isEmpty && rest.isEmpty then .error .missingProtocol
      else if !proto.isEmpty && !(terminated w) && rest.isEmpty &&
          (proto.isPrefixOf TCP4 || proto.isPrefixOf UNKNOWN) then .error .partialHdr
      else .error .invalidProtocol := by
  rw [afterProto, if_neg h4, if_neg h6, if_neg hu]

/-! ## The field reader, the final check, and the address branch on five parts -/

theorem takeFields_five (sa da sp dp x : B) (tl : List B) (term : Bool) :
    takeFields (sa :: da :: sp :: dp :: x :: tl) term = .ok (sa, da, sp, dp, x :: tl) := by
  simp [takeFields, Option.filter]

/-- What `takeFields` hands on is what follows the fourth part. -/
theorem takeFields_rest {parts : List B} {term : Bool} {sa da sp dp : B} {rest : List B}
    (h : takeFields parts term = .ok (sa, da, sp, dp, rest)) : rest = parts.tail.tail.tail.tail := by
  unfold takeFields at h
  dsimp only at h
  split at h
  · cases h
  split at h
  · cases h
  split at h
  · cases h
  split at h
  · cases h
  cases h
  rfl

/-- If `takeFields` leaves something, nothing was missing. -/
theorem takeFields_ok_cons {parts : List B} {term : Bool} {sa da sp dp x : B} {tl : List B}
    (h : takeFields parts term = .ok (sa, da, sp, dp, x :: tl)) :
    parts = sa :: da :: sp :: dp :: x :: tl := by
  have hr := takeFields_rest h
  rcases parts with _ | ⟨p0, _ | ⟨p1, _ | ⟨p2, _ | ⟨p3, t⟩⟩⟩⟩ <;> cases hr
  rw [takeFields_five] at h
  cases h
  rfl

theorem takeFields_term (parts : List B) : ∃ r, takeFields parts true = .ok r := by
  have key : ∀ o : Option B, ∃ v, o.or (some []) = some v := by intro o; cases o <;> simp
  simp only [takeFields, if_true]
  obtain ⟨v1, h1⟩ := key parts.head?
  obtain ⟨v2, h2⟩ := key parts.tail.head?
  obtain ⟨v3, h3⟩ := key parts.tail.tail.head?
  obtain ⟨v4, h4⟩ := key (parts.tail.tail.tail.head?.filter
    (fun p => !p.isEmpty || !parts.tail.tail.tail.tail.isEmpty))
  simp only [h1, h2, h3, h4]
  exact ⟨_, rfl⟩

theorem takeFields_short {rest : List B} (h : rest.length < 4) :
    ∃ e, takeFields rest false = .error e ∧ e.isIncomplete = true := by
  rcases rest with _ | ⟨a, _ | ⟨b, _ | ⟨c, _ | ⟨d, r⟩⟩⟩⟩
  · exact ⟨_, rfl, rfl⟩
  · exact ⟨_, rfl, rfl⟩
  · exact ⟨_, rfl, rfl⟩
  · exact ⟨_, rfl, rfl⟩
  · exact absurd h (Nat.not_lt.mpr (Nat.le_add_left 4 r.length))

theorem finish_of {w : B} (addr : Addresses) (tl : List B) (hsuf : CRLF.isSuffixOf w = true) :
    finish w addr ([LF] :: tl) = .ok { header := w, addresses := addr } := by
  simp [finish, hsuf, Option.filter]

theorem finish_ok {w : B} {addr : Addresses} {rest : List B} {h : Header}
    (hf : finish w addr rest = .ok h) :
    (∃ tl, rest = [LF] :: tl) ∧ CRLF.isSuffixOf w = true ∧ h = { header := w, addresses := addr } := by
  unfold finish at hf
  split at hf
  · cases hf
  · rename_i nl hnl
    rcases ite_eq_cases hf with ⟨-, he⟩ | ⟨hcond, he⟩
    · cases he
    · simp only [ne_eq, Bool.or_eq_true, decide_eq_true_eq, Bool.not_eq_true', not_or, Decidable.not_not,
        Bool.not_eq_false] at hcond
      obtain ⟨rfl, hsuf⟩ := hcond
      refine ⟨?_, hsuf, (Except.ok.inj he).symm⟩
      cases rest with
      | nil => simp at hnl
      | cons y tl =>
        simp only [List.head?_cons, Option.filter_eq_some_iff, Option.some.injEq] at hnl
        exact ⟨tl, by rw [hnl.1]⟩

theorem finish_bad_newline (w : B) (a : Addresses) {c : UInt8} (hc : c ≠ LF) :
    finish w a [[c]] = .error .invalidSuffix := by
  simp [finish, Option.filter, hc]

/-- A missing field is the verdict of the address branch. -/
theorem tcpBranch_of_missing {α : Type} {f : B → Option α} {mk : α → α → UInt16 → UInt16 → Addresses}
    {w : B} {rest : List B} {e : ParseError} (h : takeFields rest (terminated w) = .error e) :
    tcpBranch f mk w rest = .error e := by
  unfold tcpBranch parseAddresses
  rw [h]

/-- The address branch when no field is missing: the first bad field wins. -/
theorem tcpBranch_of_fields {α : Type} {f : B → Option α} {mk : α → α → UInt16 → UInt16 → Addresses}
    {w sa da sp dp : B} {rest rest' : List B}
    (h : takeFields rest (terminated w) = .ok (sa, da, sp, dp, rest')) :
    tcpBranch f mk w rest =
      match f sa with
      | none => .error .invalidSourceAddress
      | some a =>
      match f da with
      | none => .error .invalidDestinationAddress
      | some b =>
      match parsePort sp with
      | .error k => .error (.invalidSourcePort k)
      | .ok p =>
      match parsePort dp with
      | .error k => .error (.invalidDestinationPort k)
      | .ok q => finish w (mk a b p q) rest' := by
  unfold tcpBranch parseAddresses
  rw [h]
  dsimp only
  cases f sa with
  | none => rfl
  | some a =>
    cases f da with
    | none => rfl
    | some b =>
      cases parsePort sp with
      | error k => rfl
      | ok p => cases parsePort dp <;> rfl

/-! ## `parseHeader` on a line given by its fields -/

namespace Blame

/-- A v1 line of six space separated fields and an ending; in `V1.Blame` because the statements
of C12 name it `V1.Blame.tcpLine`. -/
def tcpLine (kw proto sa da sp dp : B) (ending : B) : B :=
  kw ++ [SP] ++ proto ++ [SP] ++ sa ++ [SP] ++ da ++ [SP] ++ sp ++ [SP] ++ dp ++ ending

end Blame

open Blame (tcpLine)

theorem tcpLine_eq_joinSP (kw proto sa da sp dp ending : B) :
    tcpLine kw proto sa da sp dp ending = joinSP [kw, proto, sa, da, sp] (dp ++ ending) := by
  simp only [tcpLine, joinSP, List.append_assoc, List.cons_append, List.nil_append]

theorem crFree_protoBody {kw proto tail : B} (hkw : sepFree kw) (hproto : sepFree proto)
    (hcr : crFree tail) : crFree (kw ++ [SP] ++ proto ++ tail) := by
  simp only [crFree_append]
  exact ⟨⟨⟨hkw.crFree, crFree_SP⟩, hproto.crFree⟩, hcr⟩

/-- A line `kw␠<proto>` followed by nothing or by a space and more: what follows the protocol
starts with a separator. -/
theorem protoLine_split (kw proto : B) {tail : B} (c : UInt8)
    (htail : tail = [] ∨ tail.head? = some SP) :
    ∃ s r, isSep s = true ∧ kw ++ [SP] ++ proto ++ tail ++ [CR, c] = kw ++ SP :: (proto ++ s :: r) := by
  rcases htail with rfl | h
  · exact ⟨CR, [c], isSep_CR, by simp only [List.append_assoc, List.cons_append, List.nil_append]⟩
  · cases tail with
    | nil => cases h
    | cons t ts =>
      cases h
      exact ⟨SP, ts ++ [CR, c], isSep_SP,
        by simp only [List.append_assoc, List.cons_append, List.nil_append]⟩

/-- On `PROXY␠<proto>` followed by nothing or by a space and more, `parse_header` gets past the
keyword, with at least one part after the protocol. -/
theorem parseHeader_protoLine {proto tail : B} {c : UInt8} (hproto : sepFree proto)
    (htail : tail = [] ∨ tail.head? = some SP)
    (hlen : (PROXY ++ [SP] ++ proto ++ tail ++ [CR, c]).length ≤ 107) :
    ∃ rest, rest ≠ [] ∧ parseHeader (PROXY ++ [SP] ++ proto ++ tail ++ [CR, c]) =
      afterProto (PROXY ++ [SP] ++ proto ++ tail ++ [CR, c]) proto rest := by
  obtain ⟨s, r, hs, e⟩ := protoLine_split PROXY proto c htail
  refine ⟨splitN 5 r, splitN_ne_nil 4 r, ?_⟩
  rw [parseHeader_of_parts hlen
    (by rw [e, splitN_append 5 sepFree_PROXY isSep_SP, splitN_append 4 hproto hs]), if_pos rfl]

section tcpLine
variable {kw proto sa da sp dp : B}
  (hkw : sepFree kw) (hproto : sepFree proto)
  (hsa : sepFree sa) (hda : sepFree da) (hsp : sepFree sp) (hdp : sepFree dp)
include hkw hproto hsa hda hsp

theorem sepFree_fields : ∀ f ∈ [kw, proto, sa, da, sp], sepFree f := by
  simp only [List.mem_cons, List.not_mem_nil, or_false]
  rintro f (rfl | rfl | rfl | rfl | rfl) <;> assumption

include hdp

theorem splitN_tcpLine (c : UInt8) :
    splitN 7 (tcpLine kw proto sa da sp dp [CR, c]) = [kw, proto, sa, da, sp, dp, [c]] := by
  rw [tcpLine_eq_joinSP]
  exact (splitN_joinSP _ _ (sepFree_fields hkw hproto hsa hda hsp) 1).trans
    (congrArg _ (splitN_append 0 hdp isSep_CR))

omit hkw

/-- `parse_header` on a six-field line `PROXY proto sa da sp dp CR c`: the verdict of the branch
for `proto` on the fields. -/
theorem parseHeader_tcpLine {c : UInt8} (hlen : (tcpLine PROXY proto sa da sp dp [CR, c]).length ≤ 107) :
    parseHeader (tcpLine PROXY proto sa da sp dp [CR, c]) =
      afterProto (tcpLine PROXY proto sa da sp dp [CR, c]) proto [sa, da, sp, dp, [c]] := by
  rw [parseHeader_of_parts hlen (splitN_tcpLine sepFree_PROXY hproto hsa hda hsp hdp c), if_pos rfl]

end tcpLine

/-- An address line of either family `(K, f, mk)`, the family given by `hK` (its two instances are
`afterProto_tcp4` and `afterProto_tcp6`): the first bad field wins. -/
theorem parseHeader_tcpLine_fields {α : Type} {f : B → Option α}
    {mk : α → α → UInt16 → UInt16 → Addresses} {K : B}
    (hK : ∀ w rest, afterProto w K rest = tcpBranch f mk w rest) (hKs : sepFree K)
    {sa da sp dp : B} {c : UInt8}
    (hsa : sepFree sa) (hda : sepFree da) (hsp : sepFree sp) (hdp : sepFree dp)
    (hlen : (tcpLine PROXY K sa da sp dp [CR, c]).length ≤ 107) :
    parseHeader (tcpLine PROXY K sa da sp dp [CR, c]) =
      match f sa with
      | none => .error .invalidSourceAddress
      | some a =>
      match f da with
      | none => .error .invalidDestinationAddress
      | some b =>
      match parsePort sp with
      | .error k => .error (.invalidSourcePort k)
      | .ok p =>
      match parsePort dp with
      | .error k => .error (.invalidDestinationPort k)
      | .ok q => finish (tcpLine PROXY K sa da sp dp [CR, c]) (mk a b p q) [[c]] := by
  rw [parseHeader_tcpLine hKs hsa hda hsp hdp hlen, hK, tcpBranch_of_fields (takeFields_five ..)]

end V1
