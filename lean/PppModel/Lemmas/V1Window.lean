import PppModel.Lemmas.Utf8
import PppModel.Lemmas.V1Header
import PppModel.Auto

/-!
# The entry points as functions of the window

Each entry point runs `parse_header` on the window behind a guard (`parseBytes_of_window`,
`parseStr_of_window`), and the two `FromStr` implementations are `parseStr` again; nothing outside
this file unfolds an entry point.  What the entry points have in common is therefore a statement
about `windowLength x` and `parseHeader (x.take n)`, and the lemmas after the equations carry such
a statement to either one: a success (`parseBytes_ok_iff_window`), a window that is the whole
input (`parseBytes_self`) or is longer than 107 bytes (`parseBytes_window_long`), each with its
`parseStr` twin.
-/

namespace V1

/-! ## The entry points: window, guard, `parseHeader` -/

theorem parseBytes_of_window {x : B} {n : Nat} (hw : windowLength x = some n) :
    parseBytes x = if Utf8.valid (x.take n) then (parseHeader (x.take n)).mapError .parse
      else .error .invalidUtf8 := by
  unfold parseBytes
  rw [hw]
  dsimp only
  cases Utf8.valid (x.take n)
  · rfl
  · cases parseHeader (x.take n) <;> rfl

theorem parseStr_of_window {x : B} {n : Nat} (hw : windowLength x = some n) :
    parseStr x = if Utf8.isCharBoundary x n then parseHeader (x.take n) else .error .invalidSuffix := by
  unfold parseStr
  rw [hw]
  show (if (!Utf8.isCharBoundary x n) = true then _ else _) = _
  cases Utf8.isCharBoundary x n <;> rfl

theorem parseBytes_of_window_none {x : B} (hw : windowLength x = none) :
    parseBytes x = .error (.parse .headerTooLong) := by
  unfold parseBytes; rw [hw]

theorem parseStr_of_window_none {x : B} (hw : windowLength x = none) :
    parseStr x = .error .headerTooLong := by
  unfold parseStr; rw [hw]

theorem parseHeader_window_long {x : B} {n : Nat} (hw : windowLength x = some n) (hn : 107 < n) :
    parseHeader (x.take n) = .error .headerTooLong :=
  parseHeader_long (by rw [List.length_take, Nat.min_eq_left (windowLength_le hw)]; exact hn)

theorem fromStrHeader_eq (x : B) : fromStrHeader x = parseStr x := by
  unfold fromStrHeader; cases parseStr x <;> rfl

theorem fromStrAddresses_eq (x : B) : fromStrAddresses x = (parseStr x).map (·.addresses) := by
  unfold fromStrAddresses; cases parseStr x <;> rfl

/-- `FromStr for Addresses` succeeds exactly when `TryFrom<&str>` does, with those addresses. -/
theorem fromStrAddresses_ok_iff {x : B} {a : Addresses} :
    fromStrAddresses x = .ok a ↔ ∃ h, parseStr x = .ok h ∧ h.addresses = a := by
  rw [fromStrAddresses_eq]
  cases parseStr x <;> simp [Except.map]

/-! ## From an entry point to `parse_header` on the window -/

/-- `TryFrom<&[u8]>` succeeds exactly when the window is valid UTF-8 and `parse_header` accepts it. -/
theorem parseBytes_ok_iff_window (x : B) (h : Header) :
    parseBytes x = .ok h ↔
      ∃ n, windowLength x = some n ∧ Utf8.valid (x.take n) = true ∧ parseHeader (x.take n) = .ok h := by
  cases hw : windowLength x with
  | none => simp [parseBytes_of_window_none hw]
  | some n =>
    rw [parseBytes_of_window hw]
    simp only [Option.some.injEq, exists_eq_left']
    cases Utf8.valid (x.take n)
    · simp
    · cases parseHeader (x.take n) <;> simp [Except.mapError]

/-- `TryFrom<&str>` succeeds exactly when the window ends on a character boundary and
`parse_header` accepts it. -/
theorem parseStr_ok_iff_window (x : B) (h : Header) :
    parseStr x = .ok h ↔
      ∃ n, windowLength x = some n ∧ Utf8.isCharBoundary x n = true ∧ parseHeader (x.take n) = .ok h := by
  cases hw : windowLength x with
  | none => simp [parseStr_of_window_none hw]
  | some n =>
    rw [parseStr_of_window hw]
    simp only [Option.some.injEq, exists_eq_left']
    cases Utf8.isCharBoundary x n <;> simp

/-- The byte entry point's wrapping of a `parse_header` verdict keeps its class. -/
theorem isIncompleteV1_mapError (r : Except ParseError Header) :
    Auto.isIncompleteV1 (r.mapError .parse) = Auto.isIncompleteV1Str r := by
  cases r <;> rfl

/-- An input that is its own window. -/
theorem parseStr_self {y : B} (hw : windowLength y = some y.length) : parseStr y = parseHeader y := by
  rw [parseStr_of_window hw, Utf8.isCharBoundary_length, List.take_length]; rfl

theorem parseBytes_self {y : B} (hw : windowLength y = some y.length) :
    parseBytes y = if Utf8.valid y then (parseHeader y).mapError .parse else .error .invalidUtf8 := by
  rw [parseBytes_of_window hw, List.take_length]

/-- A window of more than 107 bytes: `TryFrom<&[u8]>` answers `HeaderTooLong`, or
`InvalidUtf8` when the window is not text. -/
theorem parseBytes_window_long {x : B} {n : Nat} (hw : windowLength x = some n) (hn : 107 < n) :
    parseBytes x = .error (.parse .headerTooLong) ∨ parseBytes x = .error .invalidUtf8 := by
  rw [parseBytes_of_window hw, parseHeader_window_long hw hn]
  cases Utf8.valid (x.take n)
  · exact .inr rfl
  · exact .inl rfl

/-- A window of more than 107 bytes: `TryFrom<&str>` answers `HeaderTooLong`, or
`InvalidSuffix` when the window would cut a character. -/
theorem parseStr_window_long {x : B} {n : Nat} (hw : windowLength x = some n) (hn : 107 < n) :
    parseStr x = .error .headerTooLong ∨ parseStr x = .error .invalidSuffix := by
  rw [parseStr_of_window hw, parseHeader_window_long hw hn]
  cases Utf8.isCharBoundary x n
  · exact .inr rfl
  · exact .inl rfl

end V1
