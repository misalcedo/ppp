import PppModel.Lemmas.V2

/-!
# C02 — the v2 parser accepts exactly the well-formed headers and decodes them faithfully

`Spec.V2.encode` is the wire format of the protocol document. The parser model
`V2.parse` (tied to `src/v2/mod.rs` by the correspondence check) accepts `x` with
result `h` iff `x` is an encoding followed by arbitrary bytes, and then `h` is
exactly what was encoded and `h.header` is exactly the encoding.
-/

namespace C02
open V2 Spec.V2

/-- `V2.parse` accepts `x` with result `h` iff `x` starts with the wire encoding
of some command, transport, address value and trailing section, and `h` reports
exactly those and exactly the encoded bytes. -/
theorem accept_iff (x : B) (h : Header) :
    V2.parse x = .ok h ↔
      ∃ cmd tr addr rest trail,
        (addrBytes addr).length + rest.length ≤ 65535 ∧
        x = encode cmd tr addr rest ++ trail ∧
        h = { header := encode cmd tr addr rest, version := .two, command := cmd,
              protocol := tr, addresses := addr } := by
  constructor
  · intro hp
    obtain ⟨rest, trail, hle, he, hx⟩ := accepted_is_encoding hp
    exact ⟨_, _, _, rest, trail, hle, hx.trans (congrArg (·.header ++ trail) he), he⟩
  · rintro ⟨cmd, tr, addr, rest, trail, hle, rfl, rfl⟩
    exact parse_encode cmd tr addr rest trail hle

/-- Table form used in the property text: signature, nibbles, declared length at
least the family size, at least 16 + length bytes present; the result is the
first 16 + length bytes and the big-endian decoding of the address block. -/
theorem accept_iff_table (x : B) (h : Header) :
    V2.parse x = .ok h ↔
      x.take 12 = signature ∧ 16 ≤ x.length ∧
      ∃ c f t, byteAt x 12 = versionCommand c ∧ byteAt x 13 = familyTransport f t ∧
        familySize f ≤ be16 (byteAt x 14) (byteAt x 15) ∧
        16 + be16 (byteAt x 14) (byteAt x 15) ≤ x.length ∧
        h = { header := x.take (16 + be16 (byteAt x 14) (byteAt x 15)),
              version := .two, command := c, protocol := t,
              addresses := parseAddresses f
                (((x.take (16 + be16 (byteAt x 14) (byteAt x 15))).take (16 + familySize f)).drop 16) } := by
  rw [parse_ok_iff]
  constructor
  · rintro ⟨c, f, t, hi, lo, p, rfl, h1, h2, rfl⟩
    refine ⟨frame_sig .., by rw [frame_length]; exact Nat.le_add_right .., c, f, t, frame_vc .., frame_afp .., ?_⟩
    rw [frame_hi, frame_lo, frame_length, frame_take, frame_take, frame_drop, List.take_take,
      Nat.min_eq_left h1]
    exact ⟨h1, Nat.add_le_add_left h2 16, rfl⟩
  · rintro ⟨g1, g2, c, f, t, c1, c2, h1, h2, rfl⟩
    have hx := eq_frame g1 g2
    rw [c1, c2] at hx
    generalize byteAt x 14 = hi, byteAt x 15 = lo, x.drop 16 = p at hx h1 h2 ⊢
    subst hx
    rw [frame_length] at h2
    rw [frame_take, frame_take, frame_drop, List.take_take, Nat.min_eq_left h1]
    exact ⟨c, f, t, hi, lo, p, rfl, h1, Nat.le_of_add_le_add_left h2, rfl⟩

/-- Non-vacuity: a concrete IPv4 / PROXY / STREAM header with one TLV and a
trailer is accepted and decoded. -/
example :
    V2.parse ([0x0D, 0x0A, 0x0D, 0x0A, 0x00, 0x0D, 0x0A, 0x51, 0x55, 0x49, 0x54, 0x0A,
               0x21, 0x11, 0x00, 0x10, 127, 0, 0, 1, 192, 168, 1, 1, 0, 80, 1, 187,
               4, 0, 1, 42] ++ [0x50, 0x52]) =
      .ok { header := encode .proxy .stream
              (.ipv4 { srcAddr := ⟨127, 0, 0, 1⟩, srcPort := 80, dstAddr := ⟨192, 168, 1, 1⟩, dstPort := 443 })
              [4, 0, 1, 42],
            version := .two, command := .proxy, protocol := .stream,
            addresses := .ipv4 { srcAddr := ⟨127, 0, 0, 1⟩, srcPort := 80,
                                 dstAddr := ⟨192, 168, 1, 1⟩, dstPort := 443 } } := by
  decide +kernel

/-- **Uniqueness of the decomposition.** An input determines the command, transport, address
value, trailing section and trailer of `accept_iff` (family from byte 13, section length from
bytes 14-15): two encodings-with-trailer that are equal as byte strings have equal components. -/
theorem decomposition_unique {c c' : Command} {t t' : Transport} {a a' : Addresses}
    {r r' tr tr' : B}
    (h : encode c t a r ++ tr = encode c' t' a' r' ++ tr')
    (hl : (addrBytes a).length + r.length ≤ 65535)
    (hl' : (addrBytes a').length + r'.length ≤ 65535) :
    c = c' ∧ t = t' ∧ a = a' ∧ r = r' ∧ tr = tr' := by
  -- both sides parse, each to the header of its own components
  have hp := parse_encode c' t' a' r' tr' hl'
  rw [← h, parse_encode c t a r tr hl] at hp
  have heq : encHeader c t a r = encHeader c' t' a' r' := Except.ok.inj hp
  cases congrArg Header.command heq
  cases congrArg Header.protocol heq
  cases congrArg Header.addresses heq
  have he : (encode c t a r).drop 16 = (encode c t a r').drop 16 := congrArg (·.header.drop 16) heq
  rw [encode_drop16, encode_drop16] at he
  cases List.append_cancel_left he
  exact ⟨rfl, rfl, rfl, rfl, List.append_cancel_left h⟩

/-- Non-vacuity / use: the decomposition of a concrete input is the one read off the bytes. -/
example {c : Command} {t : Transport} {a : Addresses} {r tr : B}
    (h : encode c t a r ++ tr = encode .proxy .stream .unspec [4, 0, 1, 42] ++ [0x50])
    (hl : (addrBytes a).length + r.length ≤ 65535) :
    c = .proxy ∧ t = .stream ∧ a = .unspec ∧ r = [4, 0, 1, 42] ∧ tr = [0x50] :=
  decomposition_unique h hl (by decide)

/-- The length bounds are needed: the 16-bit length field wraps. A 65536-byte section encodes
like an empty one followed by a 65536-byte trailer. -/
example (big : B) (hb : big.length = 65536) :
    encode .loc .unspec .unspec big ++ [] = encode .loc .unspec .unspec [] ++ big ∧ big ≠ [] := by
  constructor
  · have e : u16be ((addrBytes .unspec).length + big.length) = u16be ((addrBytes .unspec).length + 0) := by
      rw [hb]; decide
    simp only [encode, e, List.length_nil, List.append_nil]
  · intro h; rw [h] at hb; cases hb

end C02
