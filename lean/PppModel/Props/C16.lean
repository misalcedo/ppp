import PppModel.Lemmas.V1Window
import PppModel.V2.Model

/-!
# C16 — the v1 entry points agree; owned copies equal their borrowed originals

The text entry point (`TryFrom<&str>`), the byte entry point (`TryFrom<&[u8]>`) and the
two `FromStr` implementations all examine the same window of the input: the line through
the byte after its first CR (`V1.windowLength`).  For an input that is a `&str`
(`Utf8.valid x`):

* when the window does not end inside a multi-byte character, all four give the same
  outcome (`entry_points_agree`, `entry_points_agree_too_long`);
* when it does, all four return an error — `InvalidUtf8` from the byte entry point,
  `InvalidSuffix` from the text ones (`mid_char_all_errors`).

The bridge is `Utf8.valid_take_iff_boundary`: a prefix of a valid string is valid
exactly when it ends on a character boundary.

`owned_equal` records that `to_owned` is the identity in the model.  Ownership is erased
in the model (a header is the list of its bytes, borrowed or owned), so the equality is
`rfl`; the memory-safety clause of the claim — the owned value "remains valid after the
buffer is overwritten or dropped" — is a statement about Rust lifetimes and allocation,
it is observed by the harness on the real crate and is not provable in the model.

That the panic-aware entry points never panic is `V1.parseStr_no_panic` and
`V1.parseBytes_no_panic` in `PppModel/Lemmas/V1NoPanic.lean`.
-/

namespace C16

/-- The window never reaches past the input. -/
theorem windowLength_le {x : B} {n : Nat} (h : V1.windowLength x = some n) : n ≤ x.length :=
  V1.windowLength_le h

/-- Whenever the examined line — through the byte after its first CR — does not end
inside a multi-byte character, the text, byte and both `FromStr` entry points give the
same outcome. -/
theorem entry_points_agree (x : B) (hx : Utf8.valid x = true) (n : Nat)
    (hn : V1.windowLength x = some n) (hb : Utf8.isCharBoundary x n = true) :
    V1.parseBytes x = (match V1.parseStr x with | .ok h => .ok h | .error e => .error (.parse e)) ∧
    V1.fromStrHeader x = V1.parseStr x ∧
    V1.fromStrAddresses x =
      (match V1.parseStr x with | .ok h => .ok h.addresses | .error e => .error e) := by
  refine ⟨?_, V1.fromStrHeader_eq x, ?_⟩
  · rw [V1.parseBytes_of_window hn, V1.parseStr_of_window hn,
      Utf8.valid_take_iff_boundary x hx n (V1.windowLength_le hn), hb]
    cases V1.parseHeader (x.take n) <;> rfl
  · rw [V1.fromStrAddresses_eq]; cases V1.parseStr x <;> rfl

/-- No CR within the first 107 bytes: every entry point reports `HeaderTooLong`. -/
theorem entry_points_agree_too_long (x : B) (hw : V1.windowLength x = none) :
    V1.parseBytes x = .error (.parse .headerTooLong) ∧
    V1.parseStr x = .error .headerTooLong ∧
    V1.fromStrHeader x = .error .headerTooLong ∧
    V1.fromStrAddresses x = .error .headerTooLong := by
  have hs := V1.parseStr_of_window_none hw
  exact ⟨V1.parseBytes_of_window_none hw, hs, by rw [V1.fromStrHeader_eq, hs],
    by rw [V1.fromStrAddresses_eq, hs]; rfl⟩

/-- When the examined line ends inside a multi-byte character, every entry point
returns an error. -/
theorem mid_char_all_errors (x : B) (hx : Utf8.valid x = true) (n : Nat)
    (hn : V1.windowLength x = some n) (hb : Utf8.isCharBoundary x n = false) :
    V1.parseBytes x = .error .invalidUtf8 ∧
    V1.parseStr x = .error .invalidSuffix ∧
    V1.fromStrHeader x = .error .invalidSuffix ∧
    V1.fromStrAddresses x = .error .invalidSuffix := by
  have hs : V1.parseStr x = .error .invalidSuffix := by rw [V1.parseStr_of_window hn, hb]; rfl
  refine ⟨?_, hs, by rw [V1.fromStrHeader_eq, hs], by rw [V1.fromStrAddresses_eq, hs]; rfl⟩
  rw [V1.parseBytes_of_window hn, Utf8.valid_take_iff_boundary x hx n (V1.windowLength_le hn), hb]
  rfl

/-- `to_owned` is the identity on v1 headers, v2 headers and TLVs.  Ownership is erased
in the model, so these are `rfl`; that the owned value survives the buffer being
overwritten or dropped is observed by the harness, not provable here. -/
theorem owned_equal :
    (∀ h : V1.Header, h.toOwned = h) ∧ (∀ h : V2.Header, h.toOwned = h) ∧
    (∀ t : V2.Tlv, t.toOwned = t) :=
  ⟨fun _ => rfl, fun _ => rfl, fun _ => rfl⟩

/-! ## Non-vacuity -/

/-- "\r€": the window (2 bytes) ends inside the three-byte character. -/
example : Utf8.valid [0x0D, 0xE2, 0x82, 0xAC] = true := by decide +kernel
example : V1.windowLength [0x0D, 0xE2, 0x82, 0xAC] = some 2 := by decide +kernel
example : Utf8.isCharBoundary [0x0D, 0xE2, 0x82, 0xAC] 2 = false := by decide +kernel
example : V1.parseStr [0x0D, 0xE2, 0x82, 0xAC] = .error .invalidSuffix := by decide +kernel
example : V1.parseBytes [0x0D, 0xE2, 0x82, 0xAC] = .error .invalidUtf8 := by decide +kernel

/-- "PROXY UNKNOWN\r€": a real prefix whose window (15 bytes) cuts the character. -/
private def cut : B :=
  [0x50,0x52,0x4F,0x58,0x59,0x20,0x55,0x4E,0x4B,0x4E,0x4F,0x57,0x4E,0x0D,0xE2,0x82,0xAC]
private theorem cut_facts : Utf8.valid cut = true ∧ V1.windowLength cut = some 15 ∧
    Utf8.isCharBoundary cut 15 = false := by decide +kernel
example : Utf8.valid cut = true ∧ V1.windowLength cut = some 15 ∧
    Utf8.isCharBoundary cut 15 = false := cut_facts
example : V1.parseBytes cut = .error .invalidUtf8 ∧ V1.parseStr cut = .error .invalidSuffix ∧
    V1.fromStrHeader cut = .error .invalidSuffix ∧ V1.fromStrAddresses cut = .error .invalidSuffix :=
  mid_char_all_errors cut cut_facts.1 15 cut_facts.2.1 cut_facts.2.2

/-- "PROXY UNKNOWN\r\n€": the window ends on a boundary, the multi-byte character
follows it, and every entry point accepts. -/
private def good : B :=
  [0x50,0x52,0x4F,0x58,0x59,0x20,0x55,0x4E,0x4B,0x4E,0x4F,0x57,0x4E,0x0D,0x0A,0xE2,0x82,0xAC]
private theorem good_facts : Utf8.valid good = true ∧ V1.windowLength good = some 15 ∧
    Utf8.isCharBoundary good 15 = true := by decide +kernel
example : Utf8.valid good = true ∧ V1.windowLength good = some 15 ∧
    Utf8.isCharBoundary good 15 = true := good_facts
example : V1.parseStr good = .ok { header := good.take 15, addresses := .unknown } := by decide +kernel
example : V1.parseBytes good = .ok { header := good.take 15, addresses := .unknown } := by decide +kernel
example : V1.fromStrAddresses good = .ok .unknown := by decide +kernel

/-! ## The packaged statement -/

/-- **C16 (agreement, as the property states it).** For every input that is a `&str`,
either all four entry points give the same outcome — the byte entry point wrapping the
text error in `BinaryParseError::Parse`, `FromStr for Addresses` projecting the
addresses — or the examined window ends inside a multi-byte character and all four
return an error (`InvalidUtf8` from bytes, `InvalidSuffix` from the three text ones). -/
theorem entry_points (x : B) (hx : Utf8.valid x = true) :
    (V1.parseBytes x = (match V1.parseStr x with | .ok h => .ok h | .error e => .error (.parse e)) ∧
      V1.fromStrHeader x = V1.parseStr x ∧
      V1.fromStrAddresses x = (V1.parseStr x).map (·.addresses))
    ∨ (V1.parseBytes x = .error .invalidUtf8 ∧ V1.parseStr x = .error .invalidSuffix ∧
      V1.fromStrHeader x = .error .invalidSuffix ∧ V1.fromStrAddresses x = .error .invalidSuffix) := by
  have hmap := V1.fromStrAddresses_eq x
  cases hw : V1.windowLength x with
  | none =>
    obtain ⟨h1, h2, h3, -⟩ := entry_points_agree_too_long x hw
    exact .inl ⟨by rw [h1, h2], by rw [h3, h2], hmap⟩
  | some n =>
    cases hb : Utf8.isCharBoundary x n with
    | true =>
      obtain ⟨h1, h2, -⟩ := entry_points_agree x hx n hw hb
      exact .inl ⟨h1, h2, hmap⟩
    | false => exact .inr (mid_char_all_errors x hx n hw hb)

/-- The byte entry point alone already decides the case: on a `&str` it reports
`InvalidUtf8` exactly when the window ends off a character boundary. -/
theorem parseBytes_invalidUtf8_iff (x : B) (hx : Utf8.valid x = true) :
    V1.parseBytes x = .error .invalidUtf8 ↔
      ∃ n, V1.windowLength x = some n ∧ Utf8.isCharBoundary x n = false := by
  refine ⟨fun hb => ?_, fun ⟨n, hw, hc⟩ => (mid_char_all_errors x hx n hw hc).1⟩
  cases hw : V1.windowLength x with
  | none => rw [V1.parseBytes_of_window_none hw] at hb; cases hb
  | some n =>
    refine ⟨n, rfl, ?_⟩
    rw [V1.parseBytes_of_window hw, Utf8.valid_take_iff_boundary x hx n (V1.windowLength_le hw)] at hb
    cases hc : Utf8.isCharBoundary x n with
    | false => rfl
    | true => rw [hc] at hb; cases hp : V1.parseHeader (x.take n) <;> rw [hp] at hb <;> cases hb

/-- **C16 (when the entry points differ).** The second case of `entry_points` — the byte
entry point reports `InvalidUtf8`, the text ones `InvalidSuffix` — happens exactly when
the examined window (through the byte after the first CR) ends off a character boundary. -/
theorem entry_points_mid_char_iff (x : B) (hx : Utf8.valid x = true) :
    (V1.parseBytes x = .error .invalidUtf8 ∧ V1.parseStr x = .error .invalidSuffix ∧
      V1.fromStrHeader x = .error .invalidSuffix ∧ V1.fromStrAddresses x = .error .invalidSuffix) ↔
    ∃ n, V1.windowLength x = some n ∧ Utf8.isCharBoundary x n = false :=
  ⟨fun h => (parseBytes_invalidUtf8_iff x hx).mp h.1, fun ⟨n, hw, hc⟩ => mid_char_all_errors x hx n hw hc⟩

/-- The two cases of `entry_points` exclude each other. -/
theorem entry_points_exclusive (x : B)
    (h1 : V1.parseBytes x = (match V1.parseStr x with | .ok h => .ok h | .error e => .error (.parse e)))
    (h2 : V1.parseBytes x = .error .invalidUtf8) : False := by
  rw [h2] at h1
  cases hs : V1.parseStr x <;> rw [hs] at h1 <;> cases h1

/-- Hence the agreeing case holds exactly when there is no window (no CR within 107
bytes) or the window ends on a character boundary. -/
theorem entry_points_agree_iff (x : B) (hx : Utf8.valid x = true) :
    (V1.parseBytes x = (match V1.parseStr x with | .ok h => .ok h | .error e => .error (.parse e)) ∧
      V1.fromStrHeader x = V1.parseStr x ∧
      V1.fromStrAddresses x = (V1.parseStr x).map (·.addresses)) ↔
    (V1.windowLength x = none ∨ ∃ n, V1.windowLength x = some n ∧ Utf8.isCharBoundary x n = true) := by
  constructor
  · rintro ⟨h1, -, -⟩
    cases hw : V1.windowLength x with
    | none => exact .inl rfl
    | some n =>
      cases hc : Utf8.isCharBoundary x n with
      | true => exact .inr ⟨n, rfl, hc⟩
      | false => exact (entry_points_exclusive x h1 (mid_char_all_errors x hx n hw hc).1).elim
  · intro h
    rcases entry_points x hx with h1 | h2
    · exact h1
    · obtain ⟨n, hw, hc⟩ := (entry_points_mid_char_iff x hx).mp h2
      rcases h with h | ⟨m, hm, hc'⟩
      · rw [hw] at h; cases h
      · rw [hw] at hm; cases hm; rw [hc] at hc'; cases hc'

/-! ### Non-vacuity of the packaged statement: both cases occur on valid text -/

example : V1.parseBytes cut = .error .invalidUtf8 ∧ V1.parseStr cut = .error .invalidSuffix ∧
    V1.fromStrHeader cut = .error .invalidSuffix ∧ V1.fromStrAddresses cut = .error .invalidSuffix :=
  (entry_points_mid_char_iff cut cut_facts.1).mpr ⟨15, cut_facts.2⟩

example : V1.parseBytes good = (match V1.parseStr good with | .ok h => .ok h | .error e => .error (.parse e)) ∧
    V1.fromStrHeader good = V1.parseStr good ∧
    V1.fromStrAddresses good = (V1.parseStr good).map (·.addresses) :=
  (entry_points_agree_iff good good_facts.1).mpr (.inr ⟨15, good_facts.2⟩)

/-- `hx` is needed: on bytes that are not text (a CR and a stray continuation byte)
neither case of `entry_points` holds — the window is the whole input, so its end counts as
a boundary and the model of `TryFrom<&str>` (only meaningful on text) goes on to
`InvalidPrefix`, while the byte entry point stops at `InvalidUtf8`. -/
example : Utf8.valid [0x0D, 0x80] = false ∧ V1.windowLength [0x0D, 0x80] = some 2 ∧
    V1.parseBytes [0x0D, 0x80] = .error .invalidUtf8 ∧
    V1.parseStr [0x0D, 0x80] = .error .invalidPrefix := by decide +kernel

end C16
