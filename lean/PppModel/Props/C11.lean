import PppModel.Lemmas.Tlv
import PppModel.Lemmas.V2

/-!
# C11 — TLV iteration yields exactly the standard walk and then stops
-/

namespace C11
open V2 Spec.Tlv

/-- **C11, main statement.** Collecting the iterator over any byte string gives
exactly the reference walk. -/
theorem collect_eq_walk (bs : B) : tlvCollect bs = walk bs := tlvCollect_eq_walk bs

/-- The fuel in `Iter.collect` is not a bound on behaviour: any larger amount of
fuel (the Rust loop has none) produces the same items. -/
theorem fuel_irrelevant (bs : B) (fuel : Nat) (h : bs.length < fuel) :
    Iter.run fuel (Iter.ofBytes bs) = tlvCollect bs :=
  (Iter.run_ofBytes bs fuel h).trans (collect_eq_walk bs).symm

/-! ### Consequences stated in the property text, proved on the reference walk -/

/-- The decoded items tile the section from its start: their encodings,
concatenated, are a prefix of the section. -/
theorem tiling (bs : B) : okBytes (tlvCollect bs) <+: bs := by
  obtain ⟨r, hr, -⟩ := walkFrom_split bs.length bs
  exact ⟨r, by rw [collect_eq_walk]; exact hr⟩

/-- The tiling is complete exactly when no error item was produced. -/
theorem tiling_complete_iff (bs : B) :
    okBytes (tlvCollect bs) = bs ↔ ∀ it ∈ tlvCollect bs, isErr it = false := by
  obtain ⟨r, hr, hiff⟩ := walkFrom_split bs.length bs
  -- `okBytes … ++ r = bs`, so `okBytes … = bs` iff `r = []`
  rw [collect_eq_walk, walk, ← hiff, ← List.append_right_eq_self (xs := okBytes (walkFrom bs.length bs)),
    hr, eq_comm]

theorem error_last (bs : B) :
    ∀ pre e post, tlvCollect bs = pre ++ .error e :: post → post = [] := by
  rw [collect_eq_walk]; exact walkFrom_error_last _ _

/-- A section of `n` bytes yields at most `n / 3 + 1` items. -/
theorem count_bound (bs : B) : (tlvCollect bs).length ≤ bs.length / 3 + 1 := tlv_count_bound bs

/-- Non-vacuity: a section with two items and a dangling byte. -/
example : tlvCollect [4, 0, 1, 42, 5, 0, 0, 9] =
    [.ok ⟨4, [42]⟩, .ok ⟨5, []⟩, .error (.leftovers 8)] := by decide +kernel

example : tlvCollect [4, 0, 1, 42, 5, 0xFF, 0xFF, 9] =
    [.ok ⟨4, [42]⟩, .error (.invalidTLV 5 65535)] := by decide +kernel

/-! ### The post-`None` state, a positional statement per item, the section of an accepted header -/

/-- `Iter.step` (the transcription of `Iterator::next` that also returns the state left behind
on `None`) and `Iter.next` are the same function: same item, same successor state on every
item, and the unchanged state where `next` has none. -/
theorem step_eq_next (it : Iter) :
    it.step = match it.next with
      | none => (none, it)
      | some (i, it') => (some i, it') := by
  -- the `match` goes through the three `if`s of `next`, and then each branch is that of `step`
  simp only [Iter.step, Iter.next, apply_ite (fun o : Option (Item × Iter) => match o with
    | none => ((none : Option Item), it)
    | some (i, it') => (some i, it'))]

/-- "Never yields an item after the end", part 1: `Iter.step` leaves the state unchanged when
it returns `None`, exactly as the Rust returns before touching `offset`. -/
theorem step_none_stable (it : Iter) : (it.step).1 = none → (it.step).2 = it := by
  rw [step_eq_next]
  cases it.next with
  | none => exact fun _ => rfl
  | some p => exact nofun

/-- `step` returns `None` exactly when `next` does, i.e. when the cursor is at or past the end. -/
theorem step_none_iff (it : Iter) : (it.step).1 = none ↔ it.next = none := by
  rw [step_eq_next]
  cases it.next with
  | none => exact ⟨fun _ => rfl, fun _ => rfl⟩
  | some p => simp only [reduceCtorEq]

/-- "Never yields an item after the end", part 2 (fused): once a poll has returned `None`,
every later poll returns `None` and the state never changes again. -/
theorem step_none_forever (it : Iter) (h : (it.step).1 = none) (k : Nat) :
    Iter.poll k (it.step).2 = (List.replicate k none, it) := by
  have hs : it.step = (none, it) := Prod.ext h (step_none_stable it h)
  rw [hs]
  induction k with
  | zero => rfl
  | succ k ih => simp only [Iter.poll, hs, ih, List.replicate_succ]

/-- "After an error", in the `step` form: the poll after an error item returns `None` and
leaves the state where the error left it (cursor at the end of the section). -/
theorem step_after_error (it : Iter) (e : ParseError) (h : (it.step).1 = some (.error e)) :
    (it.step).2.step = (none, (it.step).2) ∧ (it.step).2.offset = it.bytes.length := by
  rw [step_eq_next it] at h ⊢
  cases hn : it.next with
  | none => rw [hn] at h; cases h
  | some p =>
    obtain ⟨i, it'⟩ := p
    rw [hn] at h
    cases h
    exact ⟨by rw [step_eq_next, next_after_error it it' e hn], (Iter.next_some hn).2.2.2⟩

/-- Non-vacuity: polling four times over a one-item section: the item, then `None` three
times with the cursor staying at 4. -/
example : Iter.poll 4 (Iter.ofBytes [4, 0, 1, 42]) =
    ([some (.ok ⟨4, [42]⟩), none, none, none], { bytes := [4, 0, 1, 42], offset := 4 }) := by decide +kernel

/-- Per-item positional statement: an item yielded at cursor `o` is the encoding found at
`o`, the new cursor is right behind it (no gap, no overlap), its value has fewer than
65536 bytes (so `Spec.Tlv.enc` is injective on yielded items and `tiling` means what it says). -/
theorem next_ok_at {it it' : Iter} {t : Tlv} (h : it.next = some (.ok t, it')) :
    it.bytes.drop it.offset = enc t ++ it.bytes.drop it'.offset ∧ t.value.length < 65536 := by
  obtain ⟨-, -, -, hd, hv, -⟩ := Iter.next_some h
  exact ⟨hd, hv⟩

/-- Non-vacuity of `next_ok_at`: the second item of a two-item section. -/
example : (Iter.next { bytes := [4, 0, 1, 42, 5, 0, 0, 9], offset := 4 }) =
    some (.ok ⟨5, []⟩, { bytes := [4, 0, 1, 42, 5, 0, 0, 9], offset := 7 }) := by decide +kernel

/-- "The TLV section of any accepted header", which bytes it is: for a header that is the
wire encoding (`Spec.V2.encode`, independent of the model) of a command, a transport, an
address value of a family other than unspecified and a trailing section `rest`, followed by
arbitrary bytes, `tlvs()` yields exactly the reference walk of `rest`.

Without the hypothesis `hle` (the payload fits the 16-bit length field) the statement is false:
the encoder's length field wraps, the parser then accepts a shorter header and `h.tlvs` is the
walk of a proper prefix of `rest`. -/
theorem header_tlvs_of_encode_partial {cmd : Command} {tr : Transport} {addr : Addresses}
    {rest trail : B} {h : Header}
    (hle : (Spec.V2.addrBytes addr).length + rest.length ≤ 65535)
    (hne : addr.family ≠ .unspec)
    (hp : V2.parse (Spec.V2.encode cmd tr addr rest ++ trail) = .ok h) :
    h.tlvs = walk rest := by
  cases (parse_encode cmd tr addr rest trail hle).symm.trans hp
  rw [Header.tlvs_eq_walk, (views_of_encode cmd tr addr rest hne).2]

/-- The bound `hle` in `header_tlvs_of_encode_partial` cannot be dropped: with an IPv4
address block and a 65536-byte section starting `0, 0, 0` the payload has 65548 bytes, the
16-bit length field of the encoding wraps to 12, the parser accepts the 28-byte header with
an empty TLV section, while the walk of the section is not empty. -/
theorem header_tlvs_of_encode_needs_bound :
    ∃ (cmd : Command) (tr : Transport) (addr : Addresses) (rest trail : B) (h : Header),
      addr.family ≠ .unspec ∧
      V2.parse (Spec.V2.encode cmd tr addr rest ++ trail) = .ok h ∧
      h.tlvs = [] ∧ walk rest ≠ [] := by
  obtain ⟨tl, htl⟩ : ∃ tl : B, tl.length = 65533 := ⟨List.replicate 65533 0, List.length_replicate ..⟩
  -- only the block length and the family of the address value are used; as a variable it stays out of the `simp only`
  generalize haddr : (Addresses.ipv4 ⟨⟨0, 0, 0, 0⟩, 0, ⟨0, 0, 0, 0⟩, 0⟩) = addr
  have ha : (Spec.V2.addrBytes addr).length = 12 := haddr ▸ rfl
  have hfam : addr.family ≠ .unspec := haddr ▸ nofun
  have hq := parse_encode .proxy .stream addr [] (0 :: 0 :: 0 :: tl) (by rw [ha]; decide)
  -- the same bytes are the encoding of the long section: its length field wraps to 12
  have hx : Spec.V2.encode .proxy .stream addr [] ++ (0 :: 0 :: 0 :: tl) =
      Spec.V2.encode .proxy .stream addr (0 :: 0 :: 0 :: tl) ++ [] := by
    have hu : Spec.V2.u16be (12 + (65533 + 1 + 1 + 1)) = Spec.V2.u16be (12 + 0) := by decide +kernel
    simp only [Spec.V2.encode, List.length_cons, htl, ha, List.length_nil, hu, List.append_nil,
      List.append_assoc]
  rw [hx] at hq
  refine ⟨.proxy, .stream, addr, 0 :: 0 :: 0 :: tl, [], _, hfam, hq, ?_, ?_⟩
  · exact congrArg tlvCollect (views_of_encode .proxy .stream addr [] hfam).2
  · rw [walk, walkFrom]
    split <;> exact List.cons_ne_nil _ _

-- `hp` is not needed: `Header.tlvBytes_unspec` holds of every header value.
set_option linter.unusedVariables false in
/-- For the unspecified family the whole payload is the address view, so the TLV section
of an accepted header is empty and `tlvs()` yields nothing (the clause "section of every
accepted header" is vacuous for that family). -/
theorem header_tlvs_unspec {x : B} {h : Header} (hp : V2.parse x = .ok h)
    (hu : h.addressFamily = .unspec) : h.tlvs = [] :=
  congrArg tlvCollect (h.tlvBytes_unspec hu)

/-- Non-vacuity of `header_tlvs_of_encode_partial`: an IPv4 header with the section
`[4, 0, 1, 42]` and a two-byte trailer; the walk is the single item `(4, [42])`. -/
example :
    (V2.parse (Spec.V2.encode .proxy .stream
        (.ipv4 { srcAddr := ⟨127, 0, 0, 1⟩, srcPort := 80, dstAddr := ⟨192, 168, 1, 1⟩, dstPort := 443 })
        [4, 0, 1, 42] ++ [0x50, 0x52])).toOption.map Header.tlvs = some [.ok ⟨4, [42]⟩] ∧
    walk [4, 0, 1, 42] = [.ok ⟨4, [42]⟩] :=
  ⟨by decide +kernel, by rw [← collect_eq_walk]; decide +kernel⟩

/-- Non-vacuity of `header_tlvs_unspec`: a LOCAL / UNSPEC header with a 4-byte payload is
accepted, its family is unspecified, it has no TLVs. -/
example :
    (V2.parse [0x0D, 0x0A, 0x0D, 0x0A, 0x00, 0x0D, 0x0A, 0x51, 0x55, 0x49, 0x54, 0x0A,
               0x20, 0x00, 0x00, 0x04, 4, 0, 1, 42]).toOption.map
      (fun h => (h.addressFamily, h.tlvs, h.addressBytes)) =
      some (.unspec, [], [4, 0, 1, 42]) := by decide +kernel

end C11
