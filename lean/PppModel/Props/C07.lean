import PppModel.Lemmas.Builder
import PppModel.Lemmas.Tlv

/-!
# C07 — the v2 builder emits the specified wire format and its output parses back unchanged
-/

namespace C07
open V2 Spec.Builder

/-- The calls that write a list of TLVs. -/
def tlvOps (tlvs : List Tlv) : List Op := tlvs.map (fun t => .writeTlv t.kind t.value)

/-- Payloads that each encode as one TLV encode, in order, as the TLV section. -/
theorem encAll_map_tlv (f : Tlv → Payload)
    (hf : ∀ t, t.value.length ≤ 65535 → enc (f t) = some (Spec.Tlv.enc t))
    (tlvs : List Tlv) (hv : ∀ t ∈ tlvs, t.value.length ≤ 65535) :
    encAll (tlvs.map f) = some (tlvs.flatMap Spec.Tlv.enc) := by
  induction tlvs with
  | nil => rfl
  | cons t ts ih =>
    rw [List.forall_mem_cons] at hv
    exact encAll_cons_some.mpr ⟨_, _, hf t hv.1, ih hv.2, rfl⟩

/-- One call per TLV, each writing one value that encodes as that TLV (`write_tlv`, or
`write_payload` of a `TypeLengthValue` or of a `(type, bytes)` pair): the body of the history is
the TLV section, and no explicit length is in force. -/
theorem body_map_tlv (g : Tlv → Op) (f : Tlv → Payload) (hg : ∀ t, opPayloads (g t) = [f t])
    (hf : ∀ t, t.value.length ≤ 65535 → enc (f t) = some (Spec.Tlv.enc t))
    (tlvs : List Tlv) (hv : ∀ t ∈ tlvs, t.value.length ≤ 65535) :
    Spec.Builder.body (tlvs.map g) = some (tlvs.flatMap Spec.Tlv.enc) ∧ lengthInForce (tlvs.map g) = none := by
  constructor
  · rw [Spec.Builder.body, List.flatMap_map, funext hg, ← List.map_eq_flatMap]
    exact encAll_map_tlv f hf tlvs hv
  · refine lengthFrom_map g (fun t l h => ?_) tlvs none
    have := hg t
    rw [h] at this
    cases this

/-- **C07 (wire format), any route.** Whatever calls are used, if the reference
body of the history (`Spec.Builder.body`: the specified encodings of the written
values, in call order) is `e`, no explicit length is in force and everything fits
in 65535 bytes, the built header is the PROXY v2 wire encoding with section `e`. -/
theorem build_is_encoding_of_body (cmd : Command) (tr : Transport) (addr : Addresses) (ops : List Op)
    (e : B) (he : body ops = some e) (hno : lengthInForce ops = none)
    (hfit : (Spec.V2.addrBytes addr).length + e.length ≤ 65535) :
    (Builder.withAddresses (vcByte .two cmd) tr addr).run ops = some (Spec.V2.encode cmd tr addr e) :=
  run_eq_encode cmd tr addr e hfit (vc_eq_spec cmd ▸ shape_withAddresses_spec _ tr addr) ops e he hno rfl

/-- **C07 (wire format).** For every command, transport, address value and TLV
list whose encoding fits in 65535 bytes, the header built from them is byte for
byte the PROXY v2 wire encoding. -/
theorem build_is_encoding (cmd : Command) (tr : Transport) (addr : Addresses) (tlvs : List Tlv)
    (hv : ∀ t ∈ tlvs, t.value.length ≤ 65535)
    (hfit : (Spec.V2.addrBytes addr).length + (tlvs.flatMap Spec.Tlv.enc).length ≤ 65535) :
    (Builder.withAddresses (vcByte .two cmd) tr addr).run (tlvOps tlvs) =
      some (Spec.V2.encode cmd tr addr (tlvs.flatMap Spec.Tlv.enc)) :=
  have hb := body_map_tlv (fun t => .writeTlv t.kind t.value) _ (fun _ => rfl) enc_tlv_of_le tlvs hv
  build_is_encoding_of_body cmd tr addr (tlvOps tlvs) _ hb.1 hb.2 hfit

/-- The same with the control byte written out, and through `write_payload` of a
TLV value or a (type, bytes) pair (they are the same call, C10.tlv_pair_same). -/
theorem build_is_encoding_vc (cmd : Command) (tr : Transport) (addr : Addresses) (tlvs : List Tlv)
    (hv : ∀ t ∈ tlvs, t.value.length ≤ 65535)
    (hfit : (Spec.V2.addrBytes addr).length + (tlvs.flatMap Spec.Tlv.enc).length ≤ 65535) :
    (Builder.withAddresses (Spec.V2.versionCommand cmd) tr addr).run (tlvOps tlvs) =
      some (Spec.V2.encode cmd tr addr (tlvs.flatMap Spec.Tlv.enc)) := by
  rw [← vc_eq_spec]; exact build_is_encoding cmd tr addr tlvs hv hfit

/-- **C07 (parses back).** Parsing the built header returns the same command,
transport, addresses and bytes. -/
theorem parses_back (cmd : Command) (tr : Transport) (addr : Addresses) (tlvs : List Tlv)
    (hfit : (Spec.V2.addrBytes addr).length + (tlvs.flatMap Spec.Tlv.enc).length ≤ 65535) (trail : B) :
    V2.parse (Spec.V2.encode cmd tr addr (tlvs.flatMap Spec.Tlv.enc) ++ trail) =
      .ok (encHeader cmd tr addr (tlvs.flatMap Spec.Tlv.enc)) :=
  parse_encode cmd tr addr _ trail hfit

/-- **C07 (TLVs back).** Whenever an address family is specified, iterating the
parsed header yields the same TLV sequence in the same order. -/
theorem tlvs_back (cmd : Command) (tr : Transport) (addr : Addresses) (tlvs : List Tlv)
    (hv : ∀ t ∈ tlvs, t.value.length ≤ 65535) (hfam : addr.family ≠ .unspec) :
    (encHeader cmd tr addr (tlvs.flatMap Spec.Tlv.enc)).tlvs = tlvs.map .ok := by
  rw [Header.tlvs_eq_walk, (views_of_encode cmd tr addr _ hfam).2]
  exact walkFrom_encoded _ tlvs hv

/-- **C07 (codes).** The named TLV types carry their registered codes, and the
control nibbles are the protocol's. -/
theorem type_codes :
    (∀ t : TlvType, t.code = typeCode t) ∧
    (∀ c : Command, vcByte .two c = Spec.V2.versionCommand c) ∧
    (∀ (f : Family) (t : Transport), afpByte f t = Spec.V2.familyTransport f t) ∧
    (∀ f : Family, f.size = Spec.V2.familySize f) ∧ V2.sig = Spec.V2.signature :=
  ⟨typeCode_eq, vc_eq_spec, afpByte_eq_spec, size_eq_spec, rfl⟩

/-- Non-vacuity: two TLVs of different types behind an IPv4 block. -/
example :
    let a : Addresses := .ipv4 { srcAddr := ⟨1, 2, 3, 4⟩, srcPort := 1, dstAddr := ⟨5, 6, 7, 8⟩, dstPort := 2 }
    (Builder.withAddresses 0x21 .stream a).run (tlvOps [⟨1, [0x68, 0x32]⟩, ⟨0x30, []⟩]) =
      some (Spec.V2.encode .proxy .stream a [1, 0, 2, 0x68, 0x32, 0x30, 0, 0]) := by decide +kernel

/-! ### End to end: the builder's own output parses back (audit 3, C07 (a)/(e)) -/

/-- **C07 (round trip), any route.** The bytes the builder returns, followed by
any trailer, parse back to the command, transport and addresses the builder was
given; the parsed header is exactly the built bytes; and, when an address family
is specified, iterating it yields the written TLVs in order. -/
theorem roundtrip_of_body (cmd : Command) (tr : Transport) (addr : Addresses) (tlvs : List Tlv)
    (ops : List Op) (he : body ops = some (tlvs.flatMap Spec.Tlv.enc)) (hno : lengthInForce ops = none)
    (hfit : (Spec.V2.addrBytes addr).length + (tlvs.flatMap Spec.Tlv.enc).length ≤ 65535) (trail : B) :
    ∃ out h, (Builder.withAddresses (vcByte .two cmd) tr addr).run ops = some out ∧
      V2.parse (out ++ trail) = .ok h ∧ h.header = out ∧ h.version = .two ∧ h.command = cmd ∧
      h.protocol = tr ∧ h.addresses = addr ∧
      (addr.family ≠ .unspec → h.tlvs = tlvs.map .ok) :=
  ⟨_, _, build_is_encoding_of_body cmd tr addr ops _ he hno hfit,
    parses_back cmd tr addr tlvs hfit trail, rfl, rfl, rfl, rfl, rfl,
    tlvs_back cmd tr addr tlvs (values_le_of_fit tlvs hfit)⟩

/-- **C07 (round trip).** The header built from a command, a transport, an address
value and a TLV list (`write_tlv` each) whose encoding fits in 65535 bytes parses
back — with any trailer — to the same command, transport, addresses and header
bytes, and (family specified) to the same TLVs in the same order. -/
theorem roundtrip (cmd : Command) (tr : Transport) (addr : Addresses) (tlvs : List Tlv)
    (hfit : (Spec.V2.addrBytes addr).length + (tlvs.flatMap Spec.Tlv.enc).length ≤ 65535) (trail : B) :
    ∃ out h, (Builder.withAddresses (vcByte .two cmd) tr addr).run (tlvOps tlvs) = some out ∧
      V2.parse (out ++ trail) = .ok h ∧ h.header = out ∧ h.version = .two ∧ h.command = cmd ∧
      h.protocol = tr ∧ h.addresses = addr ∧
      (addr.family ≠ .unspec → h.tlvs = tlvs.map .ok) :=
  have hb := body_map_tlv (fun t => .writeTlv t.kind t.value) _ (fun _ => rfl) enc_tlv_of_le tlvs
    (values_le_of_fit tlvs hfit)
  roundtrip_of_body cmd tr addr tlvs _ hb.1 hb.2 hfit trail

/-- **C07 (round trip), `write_payload` of a `(type, bytes)` pair each.** -/
theorem roundtrip_pairs (cmd : Command) (tr : Transport) (addr : Addresses) (tlvs : List Tlv)
    (hfit : (Spec.V2.addrBytes addr).length + (tlvs.flatMap Spec.Tlv.enc).length ≤ 65535) (trail : B) :
    ∃ out h, (Builder.withAddresses (vcByte .two cmd) tr addr).run
        (tlvs.map (fun t => Op.writePayload (.pair t.kind t.value))) = some out ∧
      V2.parse (out ++ trail) = .ok h ∧ h.header = out ∧ h.version = .two ∧ h.command = cmd ∧
      h.protocol = tr ∧ h.addresses = addr ∧
      (addr.family ≠ .unspec → h.tlvs = tlvs.map .ok) :=
  have hb := body_map_tlv _ _ (fun _ => rfl) enc_pair_of_le tlvs (values_le_of_fit tlvs hfit)
  roundtrip_of_body cmd tr addr tlvs _ hb.1 hb.2 hfit trail

/-- **C07 (round trip), `write_payload` of a `TypeLengthValue` each.** -/
theorem roundtrip_tlv_payloads (cmd : Command) (tr : Transport) (addr : Addresses) (tlvs : List Tlv)
    (hfit : (Spec.V2.addrBytes addr).length + (tlvs.flatMap Spec.Tlv.enc).length ≤ 65535) (trail : B) :
    ∃ out h, (Builder.withAddresses (vcByte .two cmd) tr addr).run
        (tlvs.map (fun t => Op.writePayload (.tlv t.kind t.value))) = some out ∧
      V2.parse (out ++ trail) = .ok h ∧ h.header = out ∧ h.version = .two ∧ h.command = cmd ∧
      h.protocol = tr ∧ h.addresses = addr ∧
      (addr.family ≠ .unspec → h.tlvs = tlvs.map .ok) :=
  have hb := body_map_tlv _ _ (fun _ => rfl) enc_tlv_of_le tlvs (values_le_of_fit tlvs hfit)
  roundtrip_of_body cmd tr addr tlvs _ hb.1 hb.2 hfit trail

/-- **C07 (round trip), one `write_payloads` batch of `TypeLengthValue`s.** -/
theorem roundtrip_batch (cmd : Command) (tr : Transport) (addr : Addresses) (tlvs : List Tlv)
    (hfit : (Spec.V2.addrBytes addr).length + (tlvs.flatMap Spec.Tlv.enc).length ≤ 65535) (trail : B) :
    ∃ out h, (Builder.withAddresses (vcByte .two cmd) tr addr).run
        [.writePayloads (tlvs.map (fun t => .tlv t.kind t.value))] = some out ∧
      V2.parse (out ++ trail) = .ok h ∧ h.header = out ∧ h.version = .two ∧ h.command = cmd ∧
      h.protocol = tr ∧ h.addresses = addr ∧
      (addr.family ≠ .unspec → h.tlvs = tlvs.map .ok) :=
  roundtrip_of_body cmd tr addr tlvs _
    ((body_batch _).trans (encAll_map_tlv _ enc_tlv_of_le tlvs (values_le_of_fit tlvs hfit))) rfl hfit trail

/-- **C07 (round trip), one `write_payloads` batch of `(type, bytes)` pairs.** -/
theorem roundtrip_batch_pairs (cmd : Command) (tr : Transport) (addr : Addresses) (tlvs : List Tlv)
    (hfit : (Spec.V2.addrBytes addr).length + (tlvs.flatMap Spec.Tlv.enc).length ≤ 65535) (trail : B) :
    ∃ out h, (Builder.withAddresses (vcByte .two cmd) tr addr).run
        [.writePayloads (tlvs.map (fun t => .pair t.kind t.value))] = some out ∧
      V2.parse (out ++ trail) = .ok h ∧ h.header = out ∧ h.version = .two ∧ h.command = cmd ∧
      h.protocol = tr ∧ h.addresses = addr ∧
      (addr.family ≠ .unspec → h.tlvs = tlvs.map .ok) :=
  roundtrip_of_body cmd tr addr tlvs _
    ((body_batch _).trans (encAll_map_tlv _ enc_pair_of_le tlvs (values_le_of_fit tlvs hfit))) rfl hfit trail

/-- Non-vacuity of the round trip: an IPv4 block, two TLVs written as one batch
of pairs, a two-byte trailer; parses back to the same parts. -/
example :
    let a : Addresses := .ipv4 { srcAddr := ⟨1, 2, 3, 4⟩, srcPort := 1, dstAddr := ⟨5, 6, 7, 8⟩, dstPort := 2 }
    ((Builder.withAddresses (vcByte .two .proxy) .stream a).run
        [.writePayloads [.pair 1 [0x68, 0x32], .pair 0x30 []]]).map (fun out =>
      (V2.parse (out ++ [7, 7])).toOption.map (fun h =>
        h.header == out && h.addresses == a && h.tlvs == [.ok ⟨1, [0x68, 0x32]⟩, .ok ⟨0x30, []⟩])) =
      some (some true) := by decide +kernel

/-- The hypotheses of `roundtrip_of_body` (hence of every variant) are satisfiable: the batch above
has the TLV section as its reference body, no explicit length, and fits. -/
example :
    let a : Addresses := .ipv4 { srcAddr := ⟨1, 2, 3, 4⟩, srcPort := 1, dstAddr := ⟨5, 6, 7, 8⟩, dstPort := 2 }
    let tlvs : List Tlv := [⟨1, [0x68, 0x32]⟩, ⟨0x30, []⟩]
    let ops : List Op := [.writePayloads [.pair 1 [0x68, 0x32], .pair 0x30 []]]
    Spec.Builder.body ops = some (tlvs.flatMap Spec.Tlv.enc) ∧ lengthInForce ops = none ∧
    (Spec.V2.addrBytes a).length + (tlvs.flatMap Spec.Tlv.enc).length ≤ 65535 := by decide +kernel

/-! ### Named TLV types on the built bytes (audit 3, C07 (a), third item) -/

/-- A TLV of a named type, with the registered code of the protocol text. -/
def namedTlv (p : TlvType × B) : Tlv := ⟨typeCode p.1, p.2⟩

/-- Byte offset of the `j`-th TLV inside a section. -/
def tlvOffset (tlvs : List Tlv) (j : Nat) : Nat := ((tlvs.take j).map (fun t => 3 + t.value.length)).sum

/-- The first byte of the `j`-th TLV of an encoded section is its type. -/
theorem byteAt_section_kind (tlvs : List Tlv) (j : Nat) (hj : j < tlvs.length) :
    byteAt (tlvs.flatMap Spec.Tlv.enc) (tlvOffset tlvs j) = tlvs[j].kind := by
  induction tlvs generalizing j with
  | nil => cases hj
  | cons t ts ih =>
    cases j with
    | zero => rfl
    | succ j =>
      -- both sides unfold to a sum headed by the size of `t`, written `3 + n` and `n + 3`
      have hoff : tlvOffset (t :: ts) (j + 1) = (Spec.Tlv.enc t).length + tlvOffset ts j :=
        congrArg (· + tlvOffset ts j) (Nat.add_comm 3 t.value.length)
      rw [hoff, List.flatMap_cons, byteAt_append_right (Nat.le_add_right ..), Nat.add_sub_cancel_left]
      exact ih j (Nat.lt_of_succ_lt_succ hj)

/-- **C07 (codes, on the built bytes).** Writing TLVs of named types (`write_tlv(Type::X, value)`,
i.e. the model's discriminant `TlvType.code`) builds the wire encoding whose TLVs carry the
*registered* codes `Spec.Builder.typeCode`: the first byte of the `j`-th TLV in the built bytes —
at offset 16 + address block + the sizes of the TLVs before it — is the registered code of its type;
and parsing the built bytes back yields those registered codes. -/
theorem named_type_codes_on_bytes (cmd : Command) (tr : Transport) (addr : Addresses)
    (nts : List (TlvType × B))
    (hfit : (Spec.V2.addrBytes addr).length + ((nts.map namedTlv).flatMap Spec.Tlv.enc).length ≤ 65535)
    (trail : B) :
    ∃ out h, (Builder.withAddresses (vcByte .two cmd) tr addr).run
        (nts.map (fun p => Op.writeTlv p.1.code p.2)) = some out ∧
      out = Spec.V2.encode cmd tr addr ((nts.map namedTlv).flatMap Spec.Tlv.enc) ∧
      (∀ j (hj : j < nts.length),
        byteAt out (16 + (Spec.V2.addrBytes addr).length + tlvOffset (nts.map namedTlv) j) =
          typeCode nts[j].1) ∧
      V2.parse (out ++ trail) = .ok h ∧ h.header = out ∧
      (addr.family ≠ .unspec → h.tlvs = nts.map (fun p => .ok ⟨typeCode p.1, p.2⟩)) := by
  have hops : nts.map (fun p => Op.writeTlv p.1.code p.2) = tlvOps (nts.map namedTlv) := by
    rw [tlvOps, List.map_map]
    exact List.map_congr_left fun p _ => congrArg (Op.writeTlv · p.2) (typeCode_eq p.1)
  have hv := values_le_of_fit (nts.map namedTlv) hfit
  refine ⟨_, _, hops ▸ build_is_encoding cmd tr addr _ hv hfit, rfl, fun j hj => ?_,
    parses_back cmd tr addr _ hfit trail, rfl, fun hfam => ?_⟩
  · -- skip the 16 fixed bytes and the address block, then count TLVs inside the section
    rw [Nat.add_assoc, ← byteAt_drop, encode_drop16, byteAt_append_right (Nat.le_add_right ..), Nat.add_sub_cancel_left,
      byteAt_section_kind _ j (by rwa [List.length_map]), List.getElem_map]
    rfl
  · rw [tlvs_back cmd tr addr _ hv hfam, List.map_map]
    rfl

/-- Non-vacuity: an ALPN and a NETNS TLV behind an IPv4 block; bytes 28 and 33 of the built header
are the registered codes 0x01 and 0x30. -/
example :
    let a : Addresses := .ipv4 { srcAddr := ⟨1, 2, 3, 4⟩, srcPort := 1, dstAddr := ⟨5, 6, 7, 8⟩, dstPort := 2 }
    ((Builder.withAddresses (vcByte .two .proxy) .stream a).run
        [.writeTlv TlvType.alpn.code [0x68, 0x32], .writeTlv TlvType.networkNamespace.code [9]]).map
      (fun out => (byteAt out 28, byteAt out 33)) = some (0x01, 0x30) := by decide +kernel

end C07
