import PppModel.Lemmas.V1Entry
import PppModel.Lemmas.V2Blame
import PppModel.Lemmas.AutoDetect

/-!
# C06 — version auto-detection agrees with the two dedicated parsers

`HeaderResult::parse` (`Auto.parse`) runs the binary parser first and falls back
to the text parser exactly when the binary verdict is a terminal error
(`auto_def`). This file shows that the dispatch is sound:

* the two formats are disjoint on the first byte (`v1_accept_starts_with_P`,
  `v2_accept_starts_with_CR`), so no buffer is accepted by both (`never_both`);
* the dispatcher accepts exactly what one of the two parsers accepts, with the
  same header and the right tag (`tag_v2`, `tag_v1`, `accept_iff`);
* it is incomplete exactly when v2 is incomplete, or v2 is terminal and v1 is
  incomplete (`incomplete_iff`); everything else is a complete error
  (`terminal_otherwise`);
* a buffer that is still a possible v2 header is never handed to the text
  parser's verdict (`possible_v2_never_v1`).
-/

namespace C06
open Auto

/-- The auto-detecting parser is the v2 verdict unless that verdict is a terminal
error, in which case it is the v1 (bytes) verdict. -/
theorem auto_def (x : B) :
    parse x = (match V2.parse x with
      | .ok h => .v2 (.ok h)
      | .error e => if e.isIncomplete then .v2 (.error e) else .v1 (V1.parseBytes x)) := by
  rcases parse_cases x with ⟨h, hv, hp⟩ | ⟨e, hv, he, hp⟩ | ⟨e, hv, he, hp⟩ <;> rw [hp, hv]
  · exact (if_pos he).symm
  · exact (if_neg (by rw [he]; exact Bool.false_ne_true)).symm

/-- The result of auto-detection — its tag and its class (accepted / incomplete / terminal) — is the
function `Auto.verdict` of the classes of the two dedicated parsers' results on the same input:
the whole property in one equation, and the form in which the correspondence run checks the
implementation's composition (op `autoc`). -/
theorem parse_verdict (x : B) :
    ((parse x).isV2, (parse x).cls) = verdict (clsV2 (V2.parse x)) (clsV1 (V1.parseBytes x)) := by
  rcases parse_cases x with ⟨h, hv, hp⟩ | ⟨e, hv, he, hp⟩ | ⟨e, hv, he, hp⟩ <;> rw [hp, hv] <;>
    simp [verdict, clsV2, HeaderResult.isV2, HeaderResult.cls, *]

/-- `verdict` spelled out: the nine cases of the statement. -/
theorem verdict_table :
    verdict .ok .ok = (true, .ok) ∧ verdict .ok .inc = (true, .ok) ∧ verdict .ok .term = (true, .ok) ∧
    verdict .inc .ok = (true, .inc) ∧ verdict .inc .inc = (true, .inc) ∧ verdict .inc .term = (true, .inc) ∧
    verdict .term .ok = (false, .ok) ∧ verdict .term .inc = (false, .inc) ∧ verdict .term .term = (false, .term) := by
  decide

/-! ## The two formats differ on the first byte -/

/-- An input accepted by the text parser starts with `PROXY␠`, in particular with `'P'`. -/
theorem v1_accept_starts_with_P {x : B} {h : V1.Header} (hp : V1.parseBytes x = .ok h) :
    x.head? = some 0x50 := by
  have h6 := V1.parseBytes_ok_take6 hp
  cases x with
  | nil => cases h6
  | cons c t => exact congrArg some (List.cons.inj h6).1

/-- An input accepted by the text parser is a well-formed line (cf. `V1.parseHeader_ok_iff`):
the window is a window, so the grammar theorem applies to the bytes entry point. -/
theorem v1_accept_is_line {x : B} {h : V1.Header} (hp : V1.parseBytes x = .ok h) :
    ∃ n, V1.windowLength x = some n ∧ h.header = x.take n ∧ (x.take n).length ≤ 107 ∧
      Spec.V1.Line V1.ip6Model (x.take n) h.addresses := by
  obtain ⟨n, hw, -, hr⟩ := (V1.parseBytes_ok_iff_window x h).mp hp
  exact ⟨n, hw, V1.line_of_parseHeader_ok (V1.window_is_window hw) hr⟩

/-- An accepted v2 input starts with the first signature byte CR. -/
theorem v2_accept_starts_with_CR {x : B} {h : V2.Header} (hp : V2.parse x = .ok h) :
    x.head? = some 0x0D := by
  obtain ⟨c, f, t, hi, lo, p, rfl, -⟩ := (V2.parse_ok_iff x h).mp hp
  rfl

/-- If the text parser accepts, the binary parser rejects *terminally*. -/
theorem v1_accept_v2_terminal {x : B} {h : V1.Header} (hp : V1.parseBytes x = .ok h) :
    V2.parse x = .error .badPrefix :=
  V2.parse_badPrefix_of_head (v1_accept_starts_with_P hp) (by decide)

/-- No buffer is accepted by both parsers. -/
theorem never_both (x : B) :
    ¬ ((∃ h1, V1.parseBytes x = .ok h1) ∧ (∃ h2, V2.parse x = .ok h2)) := by
  rintro ⟨⟨h1, hp1⟩, ⟨h2, hp2⟩⟩
  rw [v1_accept_v2_terminal hp1] at hp2
  cases hp2

/-! ## Acceptance -/

/-- The dispatcher reports a v2 header exactly when the binary parser does. -/
theorem tag_v2 (x : B) (h : V2.Header) : parse x = .v2 (.ok h) ↔ V2.parse x = .ok h := by
  rcases parse_cases x with ⟨h', hv, hp⟩ | ⟨e, hv, -, hp⟩ | ⟨e, hv, -, hp⟩ <;> rw [hp, hv] <;> simp

/-- The dispatcher reports a v1 header exactly when the text parser does. -/
theorem tag_v1 (x : B) (h : V1.Header) : parse x = .v1 (.ok h) ↔ V1.parseBytes x = .ok h := by
  constructor
  · intro hp
    exact ((parse_eq_v1_iff x _).mp hp).1.symm
  · intro hp
    rw [parse_of_terminal (v1_accept_v2_terminal hp) rfl, hp]

/-- The dispatcher accepts exactly the buffers accepted by one of the two parsers. -/
theorem accept_iff (x : B) :
    ((∃ h, parse x = .v1 (.ok h)) ∨ (∃ h, parse x = .v2 (.ok h))) ↔
      ((∃ h, V1.parseBytes x = .ok h) ∨ (∃ h, V2.parse x = .ok h)) := by
  simp only [tag_v1, tag_v2]

/-- The same, with the result named (the form in the property list). -/
theorem accept_iff' (x : B) :
    (∃ r, parse x = r ∧ ((∃ h, r = .v1 (.ok h)) ∨ (∃ h, r = .v2 (.ok h)))) ↔
      ((∃ h, V1.parseBytes x = .ok h) ∨ (∃ h, V2.parse x = .ok h)) := by
  rw [← accept_iff]
  constructor
  · rintro ⟨r, rfl, h⟩; exact h
  · intro h; exact ⟨_, rfl, h⟩

/-- …and by exactly one of them. -/
theorem accept_exclusive (x : B) :
    ¬ ((∃ h, parse x = .v1 (.ok h)) ∧ (∃ h, parse x = .v2 (.ok h))) := by
  rintro ⟨⟨h1, e1⟩, ⟨h2, e2⟩⟩
  rw [e1] at e2
  cases e2

/-! ## Incomplete, complete, terminal -/

/-- The dispatcher asks for more bytes exactly when v2 does, or v2 fails
terminally and v1 asks for more bytes. -/
theorem incomplete_iff (x : B) :
    (parse x).isIncomplete = true ↔
      (isIncompleteV2 (V2.parse x) = true ∨
        (isIncompleteV2 (V2.parse x) = false ∧ isErr (V2.parse x) = true ∧
          isIncompleteV1 (V1.parseBytes x) = true)) := by
  rcases parse_cases x with ⟨h', hv, hp⟩ | ⟨e, hv, he, hp⟩ | ⟨e, hv, he, hp⟩ <;> rw [hp, hv] <;>
    simp [HeaderResult.isIncomplete, isIncompleteV2, isErr, *]

theorem complete_eq (x : B) : (parse x).isComplete = !(parse x).isIncomplete := rfl

/-- A `.v2 (.error e)` result is always an incomplete one: terminal v2 errors fall
through to the text parser. -/
theorem v2_error_incomplete (x : B) (e : V2.ParseError) (h : parse x = .v2 (.error e)) :
    V2.parse x = .error e ∧ e.isIncomplete = true := by
  rcases parse_cases x with ⟨h', -, hp⟩ | ⟨e', hv, he, hp⟩ | ⟨e', -, -, hp⟩ <;> rw [hp] at h <;> cases h
  exact ⟨hv, he⟩

/-- In every other case (not accepted, not incomplete) the result is the text
parser's terminal error, and the binary parser failed terminally as well. -/
theorem terminal_otherwise (x : B) (hi : (parse x).isIncomplete = false)
    (hna : ¬ ((∃ h, V1.parseBytes x = .ok h) ∨ (∃ h, V2.parse x = .ok h))) :
    ∃ e1 e2, parse x = .v1 (.error e1) ∧ e1.isIncomplete = false ∧
      V1.parseBytes x = .error e1 ∧ V2.parse x = .error e2 ∧ e2.isIncomplete = false := by
  rcases parse_cases x with ⟨hd, hv, -⟩ | ⟨e2, -, he, hp⟩ | ⟨e2, hv, he, hp⟩
  · exact absurd (.inr ⟨hd, hv⟩) hna
  · rw [hp] at hi
    exact absurd (show e2.isIncomplete = false from hi) (by simp [he])
  · rw [hp] at hi ⊢
    cases h1 : V1.parseBytes x with
    | ok h => exact absurd (.inl ⟨h, h1⟩) hna
    | error e1 =>
      rw [h1] at hi
      exact ⟨e1, e2, rfl, hi, rfl, hv, he⟩

/-- The weaker reading of the same statement: a complete error under one of the two tags. -/
theorem terminal_otherwise' (x : B) (hi : (parse x).isIncomplete = false)
    (hna : ¬ ((∃ h, V1.parseBytes x = .ok h) ∨ (∃ h, V2.parse x = .ok h))) :
    (∃ e, parse x = .v1 (.error e) ∧ e.isIncomplete = false) ∨
      (∃ e, parse x = .v2 (.error e) ∧ e.isIncomplete = false) := by
  obtain ⟨e1, -, h, h', -⟩ := terminal_otherwise x hi hna
  exact .inl ⟨e1, h, h'⟩

/-- Trichotomy: accepted, incomplete, or a complete error; the three are exclusive. -/
theorem trichotomy (x : B) :
    ((∃ h, V1.parseBytes x = .ok h) ∨ (∃ h, V2.parse x = .ok h)) ∨
    (parse x).isIncomplete = true ∨
    (∃ e, parse x = .v1 (.error e) ∧ e.isIncomplete = false) := by
  by_cases ha : (∃ h, V1.parseBytes x = .ok h) ∨ (∃ h, V2.parse x = .ok h)
  · exact .inl ha
  · cases hi : (parse x).isIncomplete with
    | true => exact .inr (.inl rfl)
    | false =>
      obtain ⟨e1, -, h, h', -⟩ := terminal_otherwise x hi ha
      exact .inr (.inr ⟨e1, h, h'⟩)

/-- An accepted buffer is never reported incomplete. -/
theorem accepted_complete (x : B)
    (ha : (∃ h, V1.parseBytes x = .ok h) ∨ (∃ h, V2.parse x = .ok h)) :
    (parse x).isIncomplete = false := by
  rcases ha with ⟨h, hp⟩ | ⟨h, hp⟩
  · rw [(tag_v1 x h).mpr hp]; rfl
  · rw [(tag_v2 x h).mpr hp]; rfl

/-- A buffer that is still a possible v2 header is never handed to the text
parser's verdict. -/
theorem possible_v2_never_v1 (x : B) (e : V2.ParseError) (h : V2.parse x = .error e)
    (hi : e.isIncomplete = true) : parse x = .v2 (.error e) :=
  parse_of_incomplete h hi

/-- Conversely, a v1-tagged result means the binary parser failed terminally. -/
theorem v1_tag_v2_terminal (x : B) (r : Except V1.BinaryParseError V1.Header)
    (h : parse x = .v1 r) :
    r = V1.parseBytes x ∧ ∃ e, V2.parse x = .error e ∧ e.isIncomplete = false :=
  (parse_eq_v1_iff x r).mp h

/-! ## Non-vacuity -/

/-- A proper prefix of the v2 signature: still a possible v2 header. -/
example : parse [0x0D, 0x0A, 0x0D] = .v2 (.error (.incomplete 3)) ∧
    (parse [0x0D, 0x0A, 0x0D]).isIncomplete = true := by decide +kernel

/-- The empty buffer is a possible v2 header too. -/
example : parse [] = .v2 (.error (.incomplete 0)) := by decide +kernel

/-- `PROXY UNKNOWN\r\n` is accepted with the v1 tag. -/
example : parse [0x50, 0x52, 0x4F, 0x58, 0x59, 0x20, 0x55, 0x4E, 0x4B, 0x4E, 0x4F, 0x57, 0x4E,
      0x0D, 0x0A] =
    .v1 (.ok { header := [0x50, 0x52, 0x4F, 0x58, 0x59, 0x20, 0x55, 0x4E, 0x4B, 0x4E, 0x4F,
      0x57, 0x4E, 0x0D, 0x0A], addresses := .unknown }) := by decide +kernel

/-- `PROXY UNK`: v2 is terminal, v1 asks for more. -/
example : parse [0x50, 0x52, 0x4F, 0x58, 0x59, 0x20, 0x55, 0x4E, 0x4B] =
      .v1 (.error (.parse .partialHdr)) ∧
    (parse [0x50, 0x52, 0x4F, 0x58, 0x59, 0x20, 0x55, 0x4E, 0x4B]).isIncomplete = true := by decide +kernel

/-- `GET /\r\n`: a complete error with the v1 tag. -/
example : parse [0x47, 0x45, 0x54, 0x20, 0x2F, 0x0D, 0x0A] = .v1 (.error (.parse .invalidPrefix)) ∧
    (parse [0x47, 0x45, 0x54, 0x20, 0x2F, 0x0D, 0x0A]).isComplete = true := by decide +kernel

/-- A v2 PROXY/TCP4 header (followed by two payload bytes) is accepted with the v2 tag. -/
example : parse [0x0D, 0x0A, 0x0D, 0x0A, 0x00, 0x0D, 0x0A, 0x51, 0x55, 0x49, 0x54, 0x0A,
      0x21, 0x11, 0x00, 0x0C, 127, 0, 0, 1, 192, 168, 1, 1, 0, 80, 1, 187, 0x50, 0x52] =
    .v2 (.ok {
      header := [0x0D, 0x0A, 0x0D, 0x0A, 0x00, 0x0D, 0x0A, 0x51, 0x55, 0x49, 0x54, 0x0A,
        0x21, 0x11, 0x00, 0x0C, 127, 0, 0, 1, 192, 168, 1, 1, 0, 80, 1, 187]
      version := .two
      command := .proxy
      protocol := .stream
      addresses := .ipv4 { srcAddr := ⟨127, 0, 0, 1⟩, srcPort := 80,
                           dstAddr := ⟨192, 168, 1, 1⟩, dstPort := 443 } }) := by decide +kernel

/-- A v2 header cut after 19 bytes: incomplete with the v2 tag, never v1. -/
example : parse [0x0D, 0x0A, 0x0D, 0x0A, 0x00, 0x0D, 0x0A, 0x51, 0x55, 0x49, 0x54, 0x0A,
      0x21, 0x11, 0x00, 0x0C, 1, 2, 3] = .v2 (.error (.partialHdr 3 12)) := by decide +kernel

/-! ## "Still a possible v2 header" is the parser's flag, not extensibility -/

/-- The signature followed by a zero byte (version nibble 0). -/
def stuck : B := [0x0D, 0x0A, 0x0D, 0x0A, 0x00, 0x0D, 0x0A, 0x51, 0x55, 0x49, 0x54, 0x0A, 0x00]

/-- **A documented example, so that "possible v2 header" is not read literally.** In
`possible_v2_never_v1`, `incomplete_iff`, … "still a possible v2 header" means "the binary parser
reports incomplete", which is what the crate's dispatcher tests. It does not mean that some
continuation is accepted: the 13 bytes `signature ++ [0x00]` are `Incomplete(13)` (the fixed part
is examined only once all 16 bytes are there) and auto-detection tags them V2, yet no
continuation is ever accepted — any continuation to 16 bytes or more is the terminal
`Version(0)`. -/
theorem v2_incomplete_not_always_extensible :
    ∃ (x : B) (e : V2.ParseError), V2.parse x = .error e ∧ e.isIncomplete = true ∧
      parse x = .v2 (.error e) ∧
      (∀ t h, V2.parse (x ++ t) ≠ .ok h) ∧
      (∀ t, 3 ≤ t.length → V2.parse (x ++ t) = .error (.version 0)) := by
  refine ⟨stuck, .incomplete 13, by decide, rfl, by decide, ?_, ?_⟩
  · intro t h hp
    obtain ⟨c, _, _, _, _, _, hx, -⟩ := (V2.parse_ok_iff _ h).mp hp
    have h1 : byteAt (stuck ++ t) 12 = Spec.V2.versionCommand c := congrArg (byteAt · 12) hx
    rw [byteAt_append_left (by decide)] at h1
    cases c <;> exact absurd h1 (by decide)
  · intro t ht
    have hg : V2.gate (stuck ++ t) = .ok () := (V2.gate_ok_iff _).mpr
      ⟨(List.take_append_of_le_length (by decide)).trans (by decide),
        by rw [List.length_append]; exact Nat.add_le_add_left ht 13⟩
    have hb : byteAt (stuck ++ t) 12 = 0 := byteAt_append_left (by decide)
    have := V2.blame_version (stuck ++ t) hg (by rw [hb]; decide)
    rw [hb] at this
    exact this

end C06
