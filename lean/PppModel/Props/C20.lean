import PppModel.Lemmas.Builder

/-!
# C20 — every encodable value appends exactly its wire encoding and reports its size
-/

namespace C20
open V2 Spec.Builder

/-- Writing a value succeeds only by appending exactly its specified encoding
after whatever the writer holds, and returns the number of bytes appended. -/
theorem write_appends_encoding (p : Payload) (w : Writer) (n : Nat) (w' : Writer)
    (h : p.writeTo w = .ok (n, w')) : ∃ e, enc p = some e ∧ w' = w ++ e ∧ n = e.length :=
  ((writeTo_ok_iff_enc p w n w').mp h).2

/-- The *exact* success condition: the value is not refused up front and the size
guard does not trip at the start of any non-empty chunk handed to the writer. -/
theorem success_condition (p : Payload) (w : Writer) :
    (∃ r, p.writeTo w = .ok r) ↔
      ∃ cs, p.chunks = some cs ∧ guardOk w cs ∧ (∀ t, p = .type t → w.length ≤ writerLimit) := by
  constructor
  · rintro ⟨⟨n, w'⟩, h⟩
    obtain ⟨hok, e, he, -, -⟩ := (writeTo_ok_iff_enc p w n w').mp h
    obtain ⟨cs, hc, -⟩ := chunks_of_enc he
    have g := (okAt_of_chunks hc w).mp hok
    obtain ⟨-, -, -, h3⟩ := hok
    exact ⟨cs, hc, g, h3⟩
  · rintro ⟨cs, hc, g, -⟩
    exact ⟨_, (writeTo_ok_iff_enc p w _ _).mpr ⟨(okAt_of_chunks hc w).mpr g, _, enc_of_chunks hc, rfl, rfl⟩⟩

/-- In particular: a writer below its size limit — the result is no longer than
a full-size header — accepts every value that is not refused. -/
theorem success_below_limit (p : Payload) (w : Writer) (e : B) (he : enc p = some e)
    (hfit : w.length + e.length ≤ 65535 + 16) : p.writeTo w = .ok (e.length, w ++ e) :=
  (writeTo_ok_iff_enc p w _ _).mpr ⟨okAt_of_fits he hfit, e, he, rfl, rfl⟩

/-- Values too large for their 16-bit length are exactly the refused ones, and
they are refused without writing anything. -/
theorem oversize_refused (p : Payload) (w : Writer) :
    (enc p = none ↔ (match p with
      | .slice bs => 65535 < bs.length
      | .tlv _ v => 65535 < v.length
      | .pair _ v => 65535 < v.length
      | _ => False)) ∧
    (enc p = none → p.writeTo w = .error w ∧ p.toBytes = none) := by
  constructor
  · cases p with
    | slice bs => exact ite_some_eq_none.trans Nat.not_le
    | tlv k v => exact ite_some_eq_none.trans Nat.not_le
    | pair k v => exact ite_some_eq_none.trans Nat.not_le
    | _ => exact ⟨nofun, False.elim⟩
  · intro h
    refine ⟨writeTo_refused p w h, ?_⟩
    rw [Payload.toBytes, writeTo_refused p [] h]

/-- Converting a value to bytes directly gives the same encoding. -/
theorem to_bytes (p : Payload) : p.toBytes = enc p := by
  rw [Payload.toBytes]
  cases he : enc p with
  | none => rw [writeTo_refused p [] he]
  | some e => rw [(writeTo_ok_iff_enc p [] _ _).mpr ⟨okAt_of_room he (by decide), e, he, rfl, rfl⟩]; rfl

/-- Reading big-endian digits continues an accumulator. -/
theorem foldl_intBE (w v acc : Nat) :
    (intBE w v).foldl (fun acc b => acc * 256 + b.toNat) acc = acc * 256 ^ w + v % 256 ^ w := by
  induction w generalizing acc with
  | zero => rw [intBE, List.foldl_nil, Nat.pow_zero, Nat.mul_one, Nat.mod_one, Nat.add_zero]
  | succ w ih =>
    have h1 : (UInt8.ofNat (v / 256 ^ w % 256)).toNat = v / 256 ^ w % 256 :=
      Nat.mod_eq_of_lt (Nat.mod_lt _ (by decide))
    -- with `P = 256 ^ w`, `d` the leading digit, `r = v % P`: `(acc * 256 + d) * P + r = acc * (P * 256) + (r + P * d)`
    rw [intBE, List.foldl_cons, ih, h1, Nat.pow_succ, Nat.mod_mul, Nat.add_mul, Nat.mul_assoc,
      Nat.mul_comm 256, Nat.mul_comm (v / 256 ^ w % 256), Nat.add_assoc, Nat.add_comm (_ * _) (v % _)]

/-- Integers are encoded big-endian at their natural width. -/
theorem int_big_endian (w v : Nat) :
    enc (.int w v) = some (intBE w v) ∧ (intBE w v).length = w ∧
    (intBE w v).foldl (fun acc b => acc * 256 + b.toNat) 0 = v % 256 ^ w :=
  ⟨rfl, intBE_length w v, by rw [foldl_intBE, Nat.zero_mul, Nat.zero_add]⟩

/-- A TLV and the equivalent (type, bytes) pair encode identically, as type,
big-endian length, value. -/
theorem tlv_pair_same (k : UInt8) (v : B) (w : Writer) :
    (Payload.tlv k v).writeTo w = (Payload.pair k v).writeTo w ∧
    enc (.tlv k v) = enc (.pair k v) ∧
    (v.length ≤ 65535 → enc (.tlv k v) =
      some (k :: UInt8.ofNat (v.length / 256) :: UInt8.ofNat (v.length % 256) :: v)) :=
  ⟨rfl, rfl, fun h => if_pos h⟩

/-- Non-vacuity: a 3-byte TLV into a pre-filled writer; a signed 16-bit -2. -/
example : (Payload.tlv 4 [1, 2, 3]).writeTo [9, 9] = .ok (6, [9, 9, 4, 0, 3, 1, 2, 3]) := by decide +kernel
example : (Payload.int 2 65534).toBytes = some [0xFF, 0xFE] := by decide +kernel

/-! ### Signed integers and the type → width table (audit 3, X2) -/

/-- Decoding a byte string as an unsigned big-endian number. -/
def beVal (bs : B) : Nat := bs.foldl (fun a b => a * 256 + b.toNat) 0

theorem twos_lt (w : Nat) (i : Int) : twos w i < 256 ^ w := by
  have hpos : (0 : Int) < ((256 ^ w : Nat) : Int) := Int.natCast_pos.mpr (Nat.pow_pos (by decide))
  rw [twos, Int.toNat_lt (Int.emod_nonneg i (Int.ne_of_gt hpos))]
  exact Int.emod_lt_of_pos i hpos

/-- The two's-complement bit pattern, in closed form, of any `i` with `-256^w ≤ i < 256^w`. -/
theorem twos_cast (w : Nat) (i : Int) (h : -((256 ^ w : Nat) : Int) ≤ i ∧ i < ((256 ^ w : Nat) : Int)) :
    ((twos w i : Nat) : Int) = i + (if i < 0 then ((256 ^ w : Nat) : Int) else 0) := by
  have hpos : (0 : Int) < ((256 ^ w : Nat) : Int) := Int.natCast_pos.mpr (Nat.pow_pos (by decide))
  unfold twos
  generalize ((256 ^ w : Nat) : Int) = M at h hpos ⊢
  rw [Int.toNat_of_nonneg (Int.emod_nonneg i (Int.ne_of_gt hpos))]
  split
  next hneg =>
    have hlt : i + M < M := by have := Int.add_lt_add_right hneg M; rwa [Int.zero_add] at this
    rw [← Int.add_emod_right, Int.emod_eq_of_lt (Int.add_nonneg_iff_neg_le.mpr h.1) hlt]
  next hnn =>
    rw [Int.add_zero]
    exact Int.emod_eq_of_lt (Int.not_lt.mp hnn) h.2

/-- **C20 (two's complement, any width).** For a `w`-byte integer `i` — signed
(`-256^w/2 ≤ i < 256^w/2`) or unsigned (`0 ≤ i < 256^w`); both are inside the
stated range — the encoding of its bit pattern has `w` bytes and, read back as an
unsigned big-endian number, minus `256^w` when `i` is negative, is `i`. -/
theorem int_twos (w : Nat) (i : Int) (h : -((256 ^ w : Nat) : Int) ≤ i ∧ i < ((256 ^ w : Nat) : Int)) :
    enc (.int w (twos w i)) = some (intBE w (twos w i)) ∧
    (intBE w (twos w i)).length = w ∧
    ((beVal (intBE w (twos w i)) : Nat) : Int) - (if i < 0 then ((256 ^ w : Nat) : Int) else 0) = i := by
  obtain ⟨h1, h2, h3⟩ := int_big_endian w (twos w i)
  refine ⟨h1, h2, ?_⟩
  rw [beVal, h3, Nat.mod_eq_of_lt (twos_lt w i), twos_cast w i h, Int.add_sub_cancel]

/-- A signed range lies inside the range of bit patterns of the same width. -/
theorem signed_range {M : Nat} {i : Int} (h : -((M / 2 : Nat) : Int) ≤ i ∧ i < ((M / 2 : Nat) : Int)) :
    -(M : Int) ≤ i ∧ i < (M : Int) :=
  have hM : ((M / 2 : Nat) : Int) ≤ (M : Int) := Int.ofNat_le.mpr (Nat.div_le_self M 2)
  ⟨Int.le_trans (Int.neg_le_neg hM) h.1, Int.lt_of_lt_of_le h.2 hM⟩

/-- The form suggested by the audit: signed range at width `w`. -/
theorem int_signed_width (w : Nat) (i : Int)
    (h : -(((256 ^ w / 2 : Nat)) : Int) ≤ i ∧ i < (((256 ^ w / 2 : Nat)) : Int)) :
    let bs := intBE w (twos w i)
    bs.length = w ∧
    ((bs.foldl (fun a b => a * 256 + b.toNat) 0 : Nat) : Int) -
      (if i < 0 then ((256 ^ w : Nat) : Int) else 0) = i :=
  (int_twos w i (signed_range h)).2

theorem inRange_bounds (t : IntTy) (i : Int) (h : t.inRange i = true) :
    -((256 ^ t.width : Nat) : Int) ≤ i ∧ i < ((256 ^ t.width : Nat) : Int) := by
  rcases ite_eq_cases h with ⟨-, h⟩ | ⟨-, h⟩
  · exact signed_range (of_decide_eq_true h)
  · have := of_decide_eq_true h
    exact ⟨Int.le_trans (Int.neg_nonpos_of_nonneg (Int.natCast_nonneg _)) this.1, this.2⟩

/-- An unsigned type holds no negative value; a signed one holds `T::MIN = -256^w/2`
up to `T::MAX = 256^w/2 - 1`. -/
theorem inRange_iff (t : IntTy) (i : Int) :
    t.inRange i = true ↔
      if t.signed then -(((256 ^ t.width / 2 : Nat)) : Int) ≤ i ∧ i < (((256 ^ t.width / 2 : Nat)) : Int)
      else 0 ≤ i ∧ i < ((256 ^ t.width : Nat) : Int) := by
  unfold IntTy.inRange
  cases t.signed <;> exact decide_eq_true_iff

/-- **C20 (integers: all widths and signs).** For every integer type that
implements `WriteToHeader` and every value `i` of that type (`T::MIN ≤ i ≤ T::MAX`),
the payload `Payload.ofInt t i` is encoded — by `write_to`/`to_bytes` and by the
specification — as exactly `t.width` bytes (1, 2, 4, 8, 16; `usize`/`isize` = 8,
assumption A4), big-endian two's complement: read back as an unsigned big-endian
number, minus `256^width` when `i` is negative, the bytes give `i`. -/
theorem int_signed (t : IntTy) (i : Int) (h : t.inRange i = true) :
    ∃ bs, enc (Payload.ofInt t i) = some bs ∧ (Payload.ofInt t i).toBytes = some bs ∧
      (Payload.ofInt t i).size = t.width ∧ bs.length = t.width ∧
      ((beVal bs : Nat) : Int) - (if i < 0 then ((256 ^ t.width : Nat) : Int) else 0) = i := by
  obtain ⟨h1, h2, h3⟩ := int_twos t.width i (inRange_bounds t i h)
  exact ⟨_, h1, by rw [to_bytes]; exact h1, rfl, h2, h3⟩

/-- … and written into any writer with room for it, it appends those bytes and reports the width. -/
theorem int_signed_write (t : IntTy) (i : Int) (w : Writer) (hfit : w.length + t.width ≤ 65535 + 16) :
    (Payload.ofInt t i).writeTo w = .ok (t.width, w ++ intBE t.width (twos t.width i)) := by
  have := success_below_limit (Payload.ofInt t i) w _ rfl (by rw [intBE_length]; exact hfit)
  rwa [intBE_length] at this

/-- The width table, spelled out. -/
theorem width_table :
    IntTy.u8.width = 1 ∧ IntTy.u16.width = 2 ∧ IntTy.u32.width = 4 ∧ IntTy.u64.width = 8 ∧
    IntTy.u128.width = 16 ∧ IntTy.usize.width = 8 ∧ IntTy.i8.width = 1 ∧ IntTy.i16.width = 2 ∧
    IntTy.i32.width = 4 ∧ IntTy.i64.width = 8 ∧ IntTy.i128.width = 16 ∧ IntTy.isize.width = 8 :=
  ⟨rfl, rfl, rfl, rfl, rfl, rfl, rfl, rfl, rfl, rfl, rfl, rfl⟩

/-- Non-vacuity: min / max / -1 of signed types, max of unsigned types are in range and encode as expected. -/
example : IntTy.i16.inRange (-2) = true ∧ (Payload.ofInt .i16 (-2)).toBytes = some [0xFF, 0xFE] := by decide +kernel
example : IntTy.i8.inRange (-128) = true ∧ IntTy.i8.inRange 127 = true ∧ IntTy.i8.inRange 128 = false ∧
    IntTy.i8.inRange (-129) = false ∧ IntTy.u8.inRange (-1) = false ∧ IntTy.u8.inRange 255 = true := by decide +kernel
example : (Payload.ofInt .i8 (-128)).toBytes = some [0x80] ∧ (Payload.ofInt .i8 127).toBytes = some [0x7F] ∧
    (Payload.ofInt .i32 (-1)).toBytes = some [0xFF, 0xFF, 0xFF, 0xFF] ∧
    (Payload.ofInt .u16 65535).toBytes = some [0xFF, 0xFF] := by decide +kernel
example : IntTy.i64.inRange (-9223372036854775808) = true ∧
    (Payload.ofInt .i64 (-9223372036854775808)).toBytes = some [0x80, 0, 0, 0, 0, 0, 0, 0] ∧
    IntTy.isize.inRange 9223372036854775807 = true ∧
    (Payload.ofInt .isize 9223372036854775807).toBytes =
      some [0x7F, 0xFF, 0xFF, 0xFF, 0xFF, 0xFF, 0xFF, 0xFF] := by decide +kernel
example : IntTy.i128.inRange (-170141183460469231731687303715884105728) = true ∧
    (Payload.ofInt .i128 (-170141183460469231731687303715884105728)).toBytes =
      some [0x80, 0, 0, 0, 0, 0, 0, 0, 0, 0, 0, 0, 0, 0, 0, 0] ∧
    IntTy.u128.inRange 340282366920938463463374607431768211455 = true ∧
    IntTy.u128.inRange 340282366920938463463374607431768211456 = false := by decide +kernel

/-! ### What a failed write leaves behind, exactly (audit 3, C20 (a)) -/

/-- **C20 (partial writes, exactly).** A failed `write_to` leaves the writer with
its old content followed by exactly the chunks before the first non-empty chunk
at whose start the buffer already exceeded the limit — or untouched when the
value is refused up front. (For a TLV: nothing, the type byte, or type and
length; never part of a chunk.) -/
theorem partial_write_exact (p : Payload) (w w' : Writer) (h : p.writeTo w = .error w') :
    (p.chunks = none ∧ w' = w) ∨
    ∃ cs k, p.chunks = some cs ∧ k < cs.length ∧ w' = w ++ (cs.take k).flatten ∧
      cs[k]! ≠ [] ∧ writerLimit < w'.length ∧ guardOk w (cs.take k) := by
  cases hc : p.chunks with
  | none => simp only [writeTo_eq, hc] at h; cases h; exact .inl ⟨rfl, rfl⟩
  | some cs =>
    rw [writeTo_of_chunks hc] at h
    cases hw : Writer.writeChunksE w cs with
    | ok w1 => rw [hw] at h; cases h
    | error e => rw [hw] at h; cases h; exact .inr ⟨cs, (writeChunksE_error w cs _ hw).imp fun k hk => ⟨rfl, hk⟩⟩

/-- A failed write never disturbs what the writer already held. -/
theorem failure_keeps_prefix (p : Payload) (w w' : Writer) (h : p.writeTo w = .error w') : w <+: w' := by
  rcases partial_write_exact p w w' h with ⟨-, rfl⟩ | ⟨cs, k, -, -, rfl, -⟩
  · exact List.prefix_refl _
  · exact List.prefix_append _ _

/-- Non-vacuity: at 65551 bytes a TLV's type byte is written and its length refused (`k = 1`). -/
example (w : Writer) (hw : w.length = 65551) : (Payload.tlv 4 []).writeTo w = .error (w ++ [4]) := by
  simp [Payload.writeTo, Payload.chunks, Writer.writeChunksE, Writer.writeAll, Writer.write,
    writerLimit, minLen, hw, be16Bytes]

/-- Values written one after another into the same writer (monadic fold of `writeTo`,
collecting the returned sizes). -/
def writeSeq : List Payload → Writer → Option (List Nat × Writer)
  | [], w => some ([], w)
  | p :: ps, w => match p.writeTo w with
    | .error _ => none
    | .ok (n, w1) => match writeSeq ps w1 with
      | none => none
      | some (ns, w2) => some (n :: ns, w2)

/-- The size a write reports is the size of *that* value, whatever was written into the same
writer before: any number of values written in sequence while the result still fits a full-size
header all succeed, each returns the length of its own encoding, and the writer ends up holding
its old content followed by the encodings in order. -/
theorem sequence_sizes (ps : List Payload) (es : List B) (w : Writer)
    (henc : ps.map enc = es.map some)
    (hfit : w.length + es.flatten.length ≤ 65535 + 16) :
    writeSeq ps w = some (es.map List.length, w ++ es.flatten) := by
  induction ps generalizing es w with
  | nil =>
    cases es with
    | nil => exact congrArg (fun x => some ([], x)) (List.append_nil w).symm
    | cons e es => cases henc
  | cons p ps ih =>
    cases es with
    | nil => cases henc
    | cons e es =>
      rw [List.map_cons, List.map_cons, List.cons.injEq] at henc
      rw [List.flatten_cons, List.length_append, ← Nat.add_assoc] at hfit
      simp only [writeSeq, success_below_limit p w e henc.1 (Nat.le_trans (Nat.le_add_right ..) hfit),
        ih es (w ++ e) henc.2 (by rwa [List.length_append]), List.map_cons, List.flatten_cons, List.append_assoc]

/-- Non-vacuity: the same TLV written twice reports 6 both times (not 6 and 12). -/
example : writeSeq [Payload.tlv 4 [1, 2, 3], Payload.tlv 4 [1, 2, 3]] [9] =
    some ([6, 6], [9, 4, 0, 3, 1, 2, 3, 4, 0, 3, 1, 2, 3]) := by decide +kernel

end C20
