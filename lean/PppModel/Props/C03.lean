import PppModel.Lemmas.V2NoPanic
import PppModel.Lemmas.V1NoPanic

/-!
# C03 — parsing, accessors and iteration never panic or hang on any input

The driver that is compared with the real crate runs the *panic-aware* layer of
the model (`…P` functions, which `panic` wherever the Rust would: index or slice
out of range, `&str` slice off a character boundary, `copy_from_slice` length
mismatch, `usize` subtraction underflow). The theorems below say that this layer
never panics and agrees with the pure layer all other theorems are about.
Because no `subP` ever underflows, overflow-checked and unchecked builds agree.

"No hang": every model function is total (structural or well-founded recursion
accepted by Lean); the iterator makes strict progress (`tlv_progress`). That the
*Rust* loops terminate is observed by the harness (step cap), see DESIGN.md 11.
-/

namespace C03

/-- `v1::Header::try_from(&[u8])`: every byte string. -/
theorem parseBytes_no_panic (x : B) : V1.parseBytesP x = .val (V1.parseBytes x) :=
  V1.parseBytes_no_panic x

/-- `v1::Header::try_from(&str)` and both `FromStr` impls (they add no partial
operation): every valid UTF-8 string, including multi-byte characters adjacent
to the CR. -/
theorem parseStr_no_panic (x : B) (hx : Utf8.valid x = true) : V1.parseStrP x = .val (V1.parseStr x) :=
  V1.parseStr_no_panic x hx

/-- "&str / FromStr entry points": `impl FromStr for Header<'static>` is
`Header::try_from(s)?.to_owned()`; it adds no partial operation. -/
theorem fromStrHeader_no_panic (x : B) (hx : Utf8.valid x = true) :
    V1.fromStrHeaderP x = .val (V1.fromStrHeader x) := by
  unfold V1.fromStrHeaderP
  rw [parseStr_no_panic x hx, V1.fromStrHeader_eq]
  cases V1.parseStr x <;> rfl

/-- `impl FromStr for Addresses` is `Header::try_from(s)?.addresses`. -/
theorem fromStrAddresses_no_panic (x : B) (hx : Utf8.valid x = true) :
    V1.fromStrAddressesP x = .val (V1.fromStrAddresses x) := by
  unfold V1.fromStrAddressesP
  rw [parseStr_no_panic x hx, V1.fromStrAddresses_eq]
  cases V1.parseStr x <;> rfl

/-- Non-vacuity: the adversarial `&str` of the property text (`"\r€"`) is valid UTF-8 and
goes through both `FromStr` impls. -/
example : Utf8.valid [0x0D, 0xE2, 0x82, 0xAC] = true ∧
    V1.fromStrHeaderP [0x0D, 0xE2, 0x82, 0xAC] = .val (.error .invalidSuffix) ∧
    V1.fromStrAddressesP [0x0D, 0xE2, 0x82, 0xAC] = .val (.error .invalidSuffix) := by decide +kernel

/-- `v2::Header::try_from(&[u8])`: every byte string. -/
theorem v2_parse_no_panic (x : B) : V2.parseP x = .val (V2.parse x) := V2.parseP_eq x

/-- `HeaderResult::parse`: every byte string. -/
theorem auto_parse_no_panic (x : B) : Auto.parseP x = .val (Auto.parse x) := by
  simp only [Auto.parseP, Auto.parse, V2.parseP_eq, V1.parseBytes_no_panic, Outcome.val_bind]
  split <;> rfl

/-- Accessors of an accepted v2 header: `length`, `address_bytes`, `tlv_bytes`
(and `tlvs()`, which is `tlv_bytes` plus the iterator below). `len`, `is_empty`,
`address_family`, `as_bytes`, `Display`, `to_owned` have no partial operation. -/
theorem v2_accessors_no_panic {x : B} {h : V2.Header} (hp : V2.parse x = .ok h) :
    h.lengthP = .val h.length ∧ h.addressBytesEndP = .val h.addressBytesEnd ∧
    h.addressBytesP = .val h.addressBytes ∧ h.tlvBytesP = .val h.tlvBytes :=
  V2.accepted_accessors hp

/-- `addresses_str` of an accepted v1 header (the only v1 accessor with index
arithmetic and `&str` slicing); `protocol`, `Display`, `to_owned` are total. -/
theorem v1_accessors_no_panic {x : B} {h : V1.Header} :
    (V1.parseBytes x = .ok h → h.addressesStrP = .val h.addressesStr) ∧
    (Utf8.valid x = true → V1.parseStr x = .ok h → h.addressesStrP = .val h.addressesStr) :=
  ⟨V1.parseBytes_addressesStr_no_panic, V1.parseStr_addressesStr_no_panic⟩

/-- "every … formatter": `impl Display for v2::Header` is not free of partial operations: it
calls `self.length()` (`src/v2/model.rs:141-151`), i.e. the partial slice `self.header[16..]`;
on every accepted header it returns normally with the text of the pure model. (The v1
`Display` impls copy `self.header` / format total `std` values and have no partial operation.) -/
theorem v2_display_no_panic {x : B} {h : V2.Header} (hp : V2.parse x = .ok h) :
    h.displayP = .val h.display :=
  V2.Header.displayP_eq h (V2.accepted_len hp)

/-- Non-vacuity: `displayP` does panic on a header value that no parser returns (fewer than
16 bytes), and does not on the accepted minimal LOCAL header. -/
example : V2.Header.displayP
    { header := [0x0D, 0x0A], version := .two, command := .loc, protocol := .unspec,
      addresses := .unspec } = .panic := by decide +kernel
example : (V2.parse [0x0D, 0x0A, 0x0D, 0x0A, 0x00, 0x0D, 0x0A, 0x51, 0x55, 0x49, 0x54, 0x0A,
    0x20, 0x00, 0x00, 0x00]).toOption.map (fun h => h.lengthP) = some (.val 0) := by decide +kernel

/-- `TypeLengthValues::next`: every iterator state over every byte slice. -/
theorem tlv_next_no_panic (it : V2.Iter) : it.nextP = .val it.next := V2.nextP_eq it

/-- Iterating a section of `n` bytes ends after at most `n / 3 + 1` items. -/
theorem tlv_count_bound (bs : B) : (V2.tlvCollect bs).length ≤ bs.length / 3 + 1 := V2.tlv_count_bound bs

/-- The cursor moves strictly forward on every item and stays inside the section;
once it reaches the end `next` returns `None`, and keeps doing so. -/
theorem tlv_progress (it it' : V2.Iter) (i : V2.Item) (h : it.next = some (i, it')) :
    it.offset < it'.offset ∧ it'.bytes = it.bytes ∧ it'.offset ≤ it.bytes.length := by
  obtain ⟨hb, hlt, hle, -⟩ := V2.Iter.next_some h
  exact ⟨hlt, hb, hle⟩

theorem tlv_fused (it : V2.Iter) : it.next = none ↔ it.bytes.length ≤ it.offset := V2.Iter.next_none_iff it

/-- Non-vacuity: the boundary cases the property names. -/
example : V1.parseStrP [0x0D, 0xE2, 0x82, 0xAC] = .val (.error .invalidSuffix) := by decide +kernel
example : V2.parseP [0x0D, 0x0A] = .val (.error (.incomplete 2)) := by decide +kernel
example : (V2.Iter.ofBytes [4, 0xFF, 0xFF]).nextP =
    .val (some (.error (.invalidTLV 4 65535), { bytes := [4, 0xFF, 0xFF], offset := 3 })) := by decide +kernel

/-- The whole loop in the panic layer: any number of `next` calls, each through `nextP`. -/
theorem tlv_run_no_panic (fuel : Nat) (it : V2.Iter) :
    V2.Iter.runP fuel it = .val (V2.Iter.run fuel it) := V2.runP_eq fuel it

/-- "accessors … and TLV iteration on the values they return", end to end in the panic
layer: `header.tlvs().collect()` on an accepted header (the partial `tlv_bytes()` slice,
then the loop over the partial `next`) returns normally, with exactly the items of the pure
model, for every step cap `f` larger than the section (the Rust loop has no cap). -/
theorem tlvs_no_panic {x : B} {h : V2.Header} (hp : V2.parse x = .ok h) (f : Nat)
    (hf : h.tlvBytes.length < f) :
    (do let bs ← h.tlvBytesP; V2.Iter.runP f (V2.Iter.ofBytes bs)) = .val h.tlvs := by
  rw [(V2.accepted_accessors hp).2.2.2]
  simp only [Outcome.val_bind]
  rw [V2.runP_eq, V2.Iter.run_ofBytes _ f hf, V2.Header.tlvs_eq_walk]

/-- Non-vacuity of `tlvs_no_panic`: an accepted IPv4 header with a 4-byte section, cap 5. -/
example : (V2.parse [0x0D, 0x0A, 0x0D, 0x0A, 0x00, 0x0D, 0x0A, 0x51, 0x55, 0x49, 0x54, 0x0A,
    0x21, 0x11, 0x00, 0x10, 127, 0, 0, 1, 192, 168, 1, 1, 0, 80, 1, 187, 4, 0, 1, 42]).toOption.map
    (fun h => (h.tlvBytes.length, (do let bs ← h.tlvBytesP; V2.Iter.runP 5 (V2.Iter.ofBytes bs)))) =
    some (4, .val [.ok ⟨4, [42]⟩]) := by decide +kernel

/-- "Iterating a TLV section of n bytes ends after at most n/3 + 1 items", about `next`
itself and with no fuel anywhere: after some `k ≤ n / 3 + 1` calls that each yielded an
item, the next call returns `None`. -/
theorem tlv_ends (bs : B) :
    ∃ k, k ≤ bs.length / 3 + 1 ∧ ∃ it, V2.Iter.iterate k (V2.Iter.ofBytes bs) = some it ∧
      it.next = none :=
  V2.iterate_ends _ (V2.Iter.ofBytes bs)
    (by rw [Nat.add_comm]; exact Nat.lt_mul_div_succ _ (by decide))

/-- Non-vacuity / tightness of `tlv_ends`: a 4-byte section (4 / 3 + 1 = 2) needs exactly
two items (one TLV, one `Leftovers` error) before `None`. -/
example : (V2.Iter.iterate 2 (V2.Iter.ofBytes [4, 0, 0, 9])).map (fun it => (it, it.next)) =
    some ({ bytes := [4, 0, 0, 9], offset := 4 }, none) := by decide +kernel

/-- `HeaderResult::parse` returns the values of the two dedicated parsers, so the accessor
theorems (whose hypotheses are `V1.parseBytes x = .ok h` / `V2.parse x = .ok h`) apply to
the values it returns. -/
theorem auto_accessors (x : B) :
    (∀ r, Auto.parse x = .v1 r → r = V1.parseBytes x) ∧
    (∀ r, Auto.parse x = .v2 r → r = V2.parse x) := by
  constructor <;> intro r hr <;> rcases ite_eq_cases hr with ⟨-, hr⟩ | ⟨-, hr⟩ <;> cases hr <;> rfl

/-- Accessors, formatter and TLV iteration on the headers `HeaderResult::parse` returns. -/
theorem auto_accessors_no_panic (x : B) :
    (∀ h, Auto.parse x = .v1 (.ok h) → h.addressesStrP = .val h.addressesStr) ∧
    (∀ h, Auto.parse x = .v2 (.ok h) →
      h.lengthP = .val h.length ∧ h.addressBytesEndP = .val h.addressBytesEnd ∧
      h.addressBytesP = .val h.addressBytes ∧ h.tlvBytesP = .val h.tlvBytes ∧
      h.displayP = .val h.display ∧
      ∀ f, h.tlvBytes.length < f →
        (do let bs ← h.tlvBytesP; V2.Iter.runP f (V2.Iter.ofBytes bs)) = .val h.tlvs) := by
  obtain ⟨a1, a2⟩ := auto_accessors x
  constructor
  · intro h hh
    exact v1_accessors_no_panic.1 (a1 _ hh).symm
  · intro h hh
    have hp : V2.parse x = .ok h := (a2 _ hh).symm
    obtain ⟨p1, p2, p3, p4⟩ := v2_accessors_no_panic hp
    exact ⟨p1, p2, p3, p4, v2_display_no_panic hp, fun f hf => tlvs_no_panic hp f hf⟩

/-- Non-vacuity: both tags occur with an accepted header. -/
example : (Auto.parse [0x0D, 0x0A, 0x0D, 0x0A, 0x00, 0x0D, 0x0A, 0x51, 0x55, 0x49, 0x54, 0x0A,
    0x20, 0x00, 0x00, 0x00]).isV2 = true ∧
    (Auto.parse [0x0D, 0x0A, 0x0D, 0x0A, 0x00, 0x0D, 0x0A, 0x51, 0x55, 0x49, 0x54, 0x0A,
    0x20, 0x00, 0x00, 0x00]).cls = .ok := by decide +kernel
example : (Auto.parse [0x50, 0x52, 0x4F, 0x58, 0x59, 0x20, 0x55, 0x4E, 0x4B, 0x4E, 0x4F, 0x57, 0x4E,
    0x0D, 0x0A]).isV2 = false ∧
    (Auto.parse [0x50, 0x52, 0x4F, 0x58, 0x59, 0x20, 0x55, 0x4E, 0x4B, 0x4E, 0x4F, 0x57, 0x4E,
    0x0D, 0x0A]).cls = .ok := by decide +kernel

/-- "no panic (including arithmetic overflow in overflow-checked builds)", the additions.
The model computes every `usize` sum on unbounded `Nat` (assumption A3); this theorem lists
every addition in the parsers, the accessors and the iterator with its exact bound:

* `MINIMUM_LENGTH + length` (`v2/mod.rs:133`) is at most 65551;
* `MINIMUM_LENGTH + address_family_bytes` (`v2/mod.rs:142`) is at most 232;
* `MINIMUM_TLV_LENGTH + length as usize` (`v2/model.rs:251`) is at most 65538;
* `self.offset += tlv_length` (`v2/model.rs:258`, executed on the item path only): the new
  cursor is that sum and it is at most the section length;
* `MINIMUM_LENGTH + min(address_bytes, length)` (`v2/model.rs:191`) is at most the header
  length + 16 on any header value, and at most the header length once 16 bytes are there;
* `suffix + PROTOCOL_SUFFIX.len()` (`v1/mod.rs:189,208`) is at most the input length + 1,
  and `index + 1` (`v1/mod.rs:44`) at most the input length;
* `PROTOCOL_PREFIX.len() + 1 + protocol().len()` (`v1/model.rs:126`) is at most 13. -/
theorem sums_bounded :
    (∀ a b : UInt8, V2.minLen + be16 a b ≤ 65551) ∧
    (∀ f : V2.Family, V2.minLen + f.size ≤ 232) ∧
    (∀ a b : UInt8, V2.minTlvLen + be16 a b ≤ 65538) ∧
    (∀ (it it' : V2.Iter) (t : V2.Tlv), it.next = some (.ok t, it') →
      it'.offset = it.offset + (V2.minTlvLen + t.value.length) ∧
      it'.offset ≤ it.bytes.length) ∧
    (∀ h : V2.Header, h.addressBytesEnd ≤ h.header.length + 16 ∧
      (16 ≤ h.header.length → h.addressBytesEnd ≤ h.header.length)) ∧
    (∀ (x : B) (i : Nat), V1.firstCR x = some i →
      i + V1.CRLF.length ≤ x.length + 1 ∧ i + 1 ≤ x.length) ∧
    (∀ h : V1.Header, V1.PROXY.length + 1 + h.protocol.length ≤ 13) := by
  refine ⟨?_, ?_, ?_, ?_, ?_, ?_, ?_⟩
  · exact fun a b => Nat.add_le_add_left (Nat.le_of_lt_succ (be16_lt a b)) V2.minLen
  · intro f; cases f <;> decide
  · exact fun a b => Nat.add_le_add_left (Nat.le_of_lt_succ (be16_lt a b)) V2.minTlvLen
  · intro it it' t h
    obtain ⟨-, -, hle, -, -, ho⟩ := V2.Iter.next_some h
    exact ⟨ho, hle⟩
  · intro h
    have hl : h.length ≤ h.header.length := by
      rw [V2.Header.length, List.length_drop]; exact Nat.sub_le ..
    exact ⟨Nat.le_trans h.addressBytesEnd_le (by rw [Nat.add_comm]; exact Nat.add_le_add_right hl 16),
      fun h16 => (h.addressBytesEnd_bounds h16).2⟩
  · intro x i h
    have := V1.firstCR_lt h
    exact ⟨Nat.succ_le_succ this, this⟩
  · intro h
    simp only [V1.Header.protocol]
    cases h.addresses <;> simp only [V1.Addresses.protocol] <;> decide

/-- Assumption A3 made explicit: let `max` be the largest `usize` and let the input `x`
satisfy `x.length + 65551 ≤ max` (on a 64-bit target: any input shorter than 2^63 bytes).
Then every sum computed while parsing `x` (text or binary), while calling the accessors of
the header parsed from `x`, and while iterating any TLV section no longer than `x` (in
particular the section of that header) is at most `max`: no addition overflows, so
overflow-checked and unchecked builds agree. -/
theorem sums_no_overflow (max : Nat) (x : B) (hmax : x.length + 65551 ≤ max) :
    V2.minLen + be16 (byteAt x 14) (byteAt x 15) ≤ max ∧
    (∀ f : V2.Family, V2.minLen + f.size ≤ max) ∧
    (∀ i, V1.firstCR x = some i → i + V1.CRLF.length ≤ max ∧ i + 1 ≤ max) ∧
    (∀ h : V1.Header, V1.PROXY.length + 1 + h.protocol.length ≤ max) ∧
    (∀ h, V2.parse x = .ok h →
      h.addressBytesEnd ≤ max ∧ h.tlvBytes.length ≤ x.length) ∧
    (∀ it : V2.Iter, it.bytes.length ≤ x.length →
      V2.minTlvLen + be16 (byteAt (it.bytes.drop it.offset) 1) (byteAt (it.bytes.drop it.offset) 2) ≤ max ∧
      ∀ it' t, it.next = some (.ok t, it') →
        it'.offset = it.offset + (V2.minTlvLen + t.value.length) ∧ it'.offset ≤ max) := by
  obtain ⟨s1, s2, s3, s4, s5, s6, s7⟩ := sums_bounded
  -- every bound of `sums_bounded` is a constant up to 65551, or at most `x.length + 1`
  have hc : ∀ {n}, n ≤ 65551 → n ≤ max := fun h =>
    Nat.le_trans h (Nat.le_trans (Nat.le_add_left ..) hmax)
  have hx : ∀ {n}, n ≤ x.length + 1 → n ≤ max := fun h =>
    Nat.le_trans h (Nat.le_trans (Nat.add_le_add_left (by decide) _) hmax)
  refine ⟨hc (s1 ..), fun f => hc (Nat.le_trans (s2 f) (by decide)), fun i h => ?_,
    fun h => hc (Nat.le_trans (s7 h) (by decide)), fun h hp => ?_,
    fun it hit => ⟨hc (Nat.le_trans (s3 ..) (by decide)), fun it' t h => ?_⟩⟩
  · exact ⟨hx (s6 x i h).1, hx (Nat.le_succ_of_le (s6 x i h).2)⟩
  · obtain ⟨-, -, -, trail, htr, -⟩ := V2.accepted_shape hp
    have hle : h.header.length ≤ x.length := List.IsPrefix.length_le ⟨trail, htr.symm⟩
    have := (s5 h).2 (V2.accepted_len hp)
    exact ⟨hx (Nat.le_succ_of_le (Nat.le_trans this hle)),
      by rw [V2.Header.tlvBytes, List.length_drop]; exact Nat.le_trans (Nat.sub_le ..) hle⟩
  · obtain ⟨h1, h2⟩ := s4 it it' t h
    exact ⟨h1, hx (Nat.le_succ_of_le (Nat.le_trans h2 hit))⟩

/-- Non-vacuity of `sums_no_overflow`: `max = 2^64 - 1` and the bounds are attained
(declared length 65535: `16 + 65535 = 65551`, `3 + 65535 = 65538`). -/
example : ([] : B).length + 65551 ≤ 2 ^ 64 - 1 := by decide +kernel
example : V2.minLen + be16 0xFF 0xFF = 65551 ∧ V2.minTlvLen + be16 0xFF 0xFF = 65538 ∧
    V2.minLen + V2.Family.unix.size = 232 := by decide +kernel

end C03
