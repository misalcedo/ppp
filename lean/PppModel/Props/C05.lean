import PppModel.Lemmas.V2Stream
import PppModel.Lemmas.V1Prefix
import PppModel.Props.C04
import PppModel.Props.C06

/-!
# C05 — streaming: every proper prefix of an accepted header is reported incomplete
-/

namespace C05
open Auto

/-- `is_complete` is always the negation of `is_incomplete`, and a success is
never flagged incomplete — for every result type of the crate. -/
theorem flags :
    (∀ r : Except V1.BinaryParseError V1.Header, isCompleteV1 r = !isIncompleteV1 r) ∧
    (∀ r : Except V2.ParseError V2.Header, isCompleteV2 r = !isIncompleteV2 r) ∧
    (∀ r : HeaderResult, r.isComplete = !r.isIncomplete) ∧
    (∀ h, isIncompleteV1 (.ok h) = false) ∧ (∀ h, isIncompleteV1Str (.ok h) = false) ∧
    (∀ h, isIncompleteV2 (.ok h) = false) ∧
    (∀ h, (HeaderResult.v1 (.ok h)).isIncomplete = false) ∧ (∀ h, (HeaderResult.v2 (.ok h)).isIncomplete = false) :=
  ⟨fun _ => rfl, fun _ => rfl, fun _ => rfl, fun _ => rfl, fun _ => rfl, fun _ => rfl, fun _ => rfl, fun _ => rfl⟩

/-- **v2.** Every proper prefix of the header of an accepted input is incomplete. -/
theorem v2_prefix_incomplete {x : B} {h : V2.Header} (hp : V2.parse x = .ok h) (n : Nat)
    (hn : n < h.header.length) : isIncompleteV2 (V2.parse (x.take n)) = true :=
  V2.prefix_incomplete hp n hn

/-- **v1, bytes, exact form.** A proper prefix of an accepted line is incomplete **iff** it is valid
UTF-8 (the cut is on a character boundary; automatic for US-ASCII lines); otherwise (a cut inside a
multi-byte character) it is the terminal `InvalidUtf8`. -/
theorem v1_bytes_prefix_incomplete_iff {x : B} {h : V1.Header} (hp : V1.parseBytes x = .ok h)
    (n : Nat) (hn : n < h.header.length) :
    isIncompleteV1 (V1.parseBytes (x.take n)) = Utf8.valid (x.take n) := by
  obtain ⟨rest, hx, hlen, -, hl⟩ := V1.parseBytes_ok_line hp
  rw [hx, List.take_append_of_le_length (Nat.le_of_lt hn)]
  exact (V1.Prefix.parseBytes_prefix hl hlen hn).1

/-- **v1, bytes, exact condition.** A proper prefix of an accepted line that is itself valid
UTF-8 is incomplete. -/
theorem v1_bytes_prefix_incomplete' {x : B} {h : V1.Header} (hp : V1.parseBytes x = .ok h) (n : Nat)
    (hn : n < h.header.length) (hv : Utf8.valid (x.take n) = true) :
    isIncompleteV1 (V1.parseBytes (x.take n)) = true :=
  (v1_bytes_prefix_incomplete_iff hp n hn).trans hv

/-- **v1, bytes, the complement.** A proper prefix of an accepted line that is *not* valid UTF-8
(a cut inside a multi-byte character) is the terminal error `InvalidUtf8`: the US-ASCII
restriction in the property text is tight. -/
theorem v1_bytes_prefix_invalidUtf8 {x : B} {h : V1.Header} (hp : V1.parseBytes x = .ok h) (n : Nat)
    (hn : n < h.header.length) (hv : Utf8.valid (x.take n) = false) :
    V1.parseBytes (x.take n) = .error .invalidUtf8 ∧
      isIncompleteV1 (V1.parseBytes (x.take n)) = false := by
  obtain ⟨rest, hx, hlen, -, hl⟩ := V1.parseBytes_ok_line hp
  rw [hx, List.take_append_of_le_length (Nat.le_of_lt hn)] at hv ⊢
  rw [(V1.Prefix.parseBytes_prefix hl hlen hn).2 hv]
  exact ⟨rfl, rfl⟩

/-- **v1, bytes.** Every proper prefix of an accepted US-ASCII line is incomplete. -/
theorem v1_bytes_prefix_incomplete {x : B} {h : V1.Header} (hp : V1.parseBytes x = .ok h)
    (hascii : ∀ c ∈ h.header, c < 0x80) (n : Nat) (hn : n < h.header.length) :
    isIncompleteV1 (V1.parseBytes (x.take n)) = true := by
  obtain ⟨rest, hx, -⟩ := V1.parseBytes_ok_line hp
  rw [v1_bytes_prefix_incomplete_iff hp n hn, hx, List.take_append_of_le_length (Nat.le_of_lt hn)]
  exact Utf8.ascii_valid _ fun c hc => hascii c (List.mem_of_mem_take hc)

/-- **v1, text, no US-ASCII hypothesis.** Every proper prefix of the header of an input accepted
by `TryFrom<&str>` is incomplete: the window of a proper prefix is the whole prefix, and its end
is always a character boundary. -/
theorem v1_str_prefix_incomplete' {x : B} {h : V1.Header} (hp : V1.parseStr x = .ok h) (n : Nat)
    (hn : n < h.header.length) : isIncompleteV1Str (V1.parseStr (x.take n)) = true := by
  obtain ⟨rest, hx, hlen, hl⟩ := V1.parseStr_ok_line hp
  rw [hx, List.take_append_of_le_length (Nat.le_of_lt hn)]
  exact V1.Prefix.parseStr_prefix_incomplete hl hlen hn

set_option linter.unusedVariables false in
/-- **v1, text** (and hence both `FromStr` impls). The US-ASCII hypothesis is not needed
(`v1_str_prefix_incomplete'`). -/
theorem v1_str_prefix_incomplete {x : B} {h : V1.Header} (hp : V1.parseStr x = .ok h)
    (hascii : ∀ c ∈ h.header, c < 0x80) (n : Nat) (hn : n < h.header.length) :
    isIncompleteV1Str (V1.parseStr (x.take n)) = true :=
  v1_str_prefix_incomplete' hp n hn

/-- **`FromStr for Header`**: every proper prefix of the accepted header is incomplete. -/
theorem fromStrHeader_prefix_incomplete {x : B} {h : V1.Header} (hp : V1.fromStrHeader x = .ok h)
    (n : Nat) (hn : n < h.header.length) :
    isIncompleteV1Str (V1.fromStrHeader (x.take n)) = true := by
  rw [V1.fromStrHeader_eq] at hp ⊢
  exact v1_str_prefix_incomplete' hp n hn

/-- **`FromStr for Addresses`**: the result carries no header, so the statement is in terms of
the line `x` starts with (through the byte after its first CR): parsing any shorter prefix
fails with an incomplete error. -/
theorem fromStrAddresses_prefix_incomplete {x : B} {a : V1.Addresses}
    (hp : V1.fromStrAddresses x = .ok a) :
    ∃ c, V1.firstCR x = some c ∧ c + 1 < x.length ∧
      ∀ n, n < c + 2 → ∃ e, V1.fromStrAddresses (x.take n) = .error e ∧ e.isIncomplete = true := by
  obtain ⟨h, hs, -⟩ := V1.fromStrAddresses_ok_iff.mp hp
  obtain ⟨rest, hx, -, hl⟩ := V1.parseStr_ok_line hs
  obtain ⟨c, hcr, hlen⟩ := V1.line_firstCR (rest := rest) hl
  refine ⟨c, hx ▸ hcr, by rw [hx, List.length_append, hlen]; exact Nat.lt_add_right _ (Nat.lt_succ_self _),
    fun n hn => ?_⟩
  have hinc := v1_str_prefix_incomplete' hs n (hlen ▸ hn)
  rw [V1.fromStrAddresses_eq]
  cases hq : V1.parseStr (x.take n) with
  | ok h' => rw [hq] at hinc; cases hinc
  | error e => rw [hq] at hinc; exact ⟨e, rfl, hinc⟩

/-- **auto-detect.** Through `HeaderResult::parse` as well, for headers of either version. -/
theorem auto_prefix_incomplete {x : B} (n : Nat) :
    (∀ h, Auto.parse x = .v2 (.ok h) → n < h.header.length → (Auto.parse (x.take n)).isIncomplete = true) ∧
    (∀ h, Auto.parse x = .v1 (.ok h) → (∀ c ∈ h.header, c < 0x80) → n < h.header.length →
      (Auto.parse (x.take n)).isIncomplete = true) := by
  constructor
  · exact fun h hp hn =>
      (C06.incomplete_iff _).mpr (.inl (V2.prefix_incomplete ((C06.tag_v2 x h).mp hp) n hn))
  · exact fun h hp hascii hn =>
      incomplete_of_v1 (v1_bytes_prefix_incomplete ((C06.tag_v1 x h).mp hp) hascii n hn)

/-! ## Histories: however the stream is split into reads -/

/-- **v2 history form** (`V2.streaming`, for the generic receiver). -/
theorem streaming_v2 {x : B} {h : V2.Header} (hp : V2.parse x = .ok h) (payload : B) (reads : List B)
    (hr : reads.flatten = x ++ payload) :
    receive V2.parse isIncompleteV2 [] reads = some (.ok h) :=
  V2.receive_eq [] reads ▸ V2.streaming hp payload reads hr

/-- **v1 history form.** A receiver that re-parses its growing buffer ends with the
same header as a one-shot parse, for every accepted US-ASCII line, every
trailing payload and every split into reads. -/
theorem streaming_v1 {x : B} {h : V1.Header} (hp : V1.parseBytes x = .ok h)
    (hascii : ∀ c ∈ h.header, c < 0x80) (payload : B) (reads : List B)
    (hr : reads.flatten = x ++ payload) :
    receive V1.parseBytes isIncompleteV1 [] reads = some (.ok h) := by
  obtain ⟨-, hself, ⟨s, hs⟩, c, -, hlen⟩ := C04.v1_bytes_trailing hp payload
  exact streaming V1.parseBytes isIncompleteV1 (s := s ++ payload) (hlen ▸ Nat.succ_pos _)
    (v1_bytes_prefix_incomplete hself hascii) (fun _ => (C04.v1_bytes_trailing hself _).1) rfl
    (by rw [hr, ← hs, List.append_assoc])

/-- **v1 text history form.** A receiver built on `TryFrom<&str>` that re-parses its growing
buffer ends with the same header as a one-shot parse, for every accepted line (US-ASCII or not),
every trailing payload such that the whole stream is a `&str`, and every split into reads.
(For the buffers to *be* `&str`s in the crate the reads must be cut on character boundaries; the
statement about the model does not need that hypothesis, only that the header is not followed by
a continuation byte, which `Utf8.valid (x ++ payload)` guarantees.) -/
theorem streaming_v1_str {x : B} {h : V1.Header} (hp : V1.parseStr x = .ok h) (payload : B)
    (reads : List B) (hr : reads.flatten = x ++ payload)
    (hv : Utf8.valid (x ++ payload) = true) :
    receive V1.parseStr isIncompleteV1Str [] reads = some (.ok h) := by
  obtain ⟨s, hs, -, hl⟩ := V1.parseStr_ok_line hp
  have h15 := (V1.line_prefix hl).1
  -- the header ends on a character boundary of the stream
  have hb : Utf8.isCharBoundary (h.header ++ (s ++ payload)) h.header.length = true := by
    apply V1.boundary_after_line hl
    rw [← List.append_assoc, ← hs]; exact hv
  exact streaming V1.parseStr isIncompleteV1Str (s := s ++ payload) (Nat.lt_of_lt_of_le (by decide) h15)
    (v1_str_prefix_incomplete' (C04.v1_str_header_self hp))
    (fun m => C04.v1_str_header_append hp _ (Utf8.isCharBoundary_append_take m hb)) rfl
    (by rw [hr, hs, List.append_assoc])

/-- **auto-detect history form.** The same receiver built on `HeaderResult::parse`:
it ends with the same (tagged) header as a one-shot parse, for v2 headers and for
US-ASCII v1 lines, however the stream is split. -/
theorem streaming_auto {x : B} (payload : B) (reads : List B) (hr : reads.flatten = x ++ payload) :
    (∀ h, Auto.parse x = .v2 (.ok h) →
      receive Auto.parse HeaderResult.isIncomplete [] reads = some (.v2 (.ok h))) ∧
    (∀ h, Auto.parse x = .v1 (.ok h) → (∀ c ∈ h.header, c < 0x80) →
      receive Auto.parse HeaderResult.isIncomplete [] reads = some (.v1 (.ok h))) := by
  constructor
  · intro h hp
    obtain ⟨-, hself, ⟨s, hs⟩, hlen⟩ := (C04.auto_trailing' (x := x) payload).1 h hp
    exact streaming Auto.parse HeaderResult.isIncomplete (s := s ++ payload)
      (hlen ▸ Nat.add_pos_left (by decide) _)
      (fun n => (auto_prefix_incomplete n).1 h hself)
      (fun _ => ((C04.auto_trailing _).1 h hself).1) rfl (by rw [hr, ← hs, List.append_assoc])
  · intro h hp hascii
    obtain ⟨-, hself, ⟨s, hs⟩, c, -, hlen⟩ := (C04.auto_trailing' (x := x) payload).2 h hp
    exact streaming Auto.parse HeaderResult.isIncomplete (s := s ++ payload) (hlen ▸ Nat.succ_pos _)
      (fun n => (auto_prefix_incomplete n).2 h hself hascii)
      (fun _ => ((C04.auto_trailing _).2 h hself).1) rfl (by rw [hr, ← hs, List.append_assoc])

/-- Non-vacuity: `PROXY UNKNOWN\r\n` delivered as "PROXY UNK", "", "NOWN\r", "\nGET". -/
example :
    receive V1.parseBytes isIncompleteV1 []
      [[0x50,0x52,0x4F,0x58,0x59,0x20,0x55,0x4E,0x4B], [], [0x4E,0x4F,0x57,0x4E,0x0D], [0x0A,0x47,0x45,0x54]] =
    some (.ok ⟨[0x50,0x52,0x4F,0x58,0x59,0x20,0x55,0x4E,0x4B,0x4E,0x4F,0x57,0x4E,0x0D,0x0A], .unknown⟩) := by
  decide +kernel

/-! ## The non-ASCII line `PROXY UNKNOWN é\r\n`: why the US-ASCII restriction is needed; non-vacuity -/

/-- `PROXY UNKNOWN é\r\n` (the `é` is `C3 A9`). -/
def unkE : B :=
  [0x50,0x52,0x4F,0x58,0x59,0x20,0x55,0x4E,0x4B,0x4E,0x4F,0x57,0x4E,0x20,0xC3,0xA9,0x0D,0x0A]

/-- **The US-ASCII / valid-prefix restriction is needed.** The non-ASCII line
`PROXY UNKNOWN é\r\n` is accepted by the byte entry point (and by auto-detection), but its
15-byte prefix, cut inside `é`, is the *terminal* error `InvalidUtf8` — through
`HeaderResult::parse` as well — so a receiver that re-parses its buffer gives up on this
header if a read happens to end there, while the cut after `é` is incomplete as usual. -/
theorem ascii_restriction_needed :
    V1.parseBytes unkE = .ok ⟨unkE, .unknown⟩ ∧ Auto.parse unkE = .v1 (.ok ⟨unkE, .unknown⟩) ∧
    (15 < unkE.length ∧ Utf8.valid (unkE.take 15) = false) ∧
    V1.parseBytes (unkE.take 15) = .error .invalidUtf8 ∧
    isIncompleteV1 (V1.parseBytes (unkE.take 15)) = false ∧
    (Auto.parse (unkE.take 15)).isIncomplete = false ∧
    receive V1.parseBytes isIncompleteV1 [] [unkE.take 15, unkE.drop 15] =
      some (.error .invalidUtf8) ∧
    isIncompleteV1 (V1.parseBytes (unkE.take 16)) = true ∧
    isIncompleteV1Str (V1.parseStr (unkE.take 16)) = true := by
  decide +kernel

private theorem unkE_str : V1.parseStr unkE = .ok ⟨unkE, .unknown⟩ := by decide +kernel

/-- Non-vacuity of `v1_bytes_prefix_invalidUtf8` / `v1_bytes_prefix_incomplete'` (through the
theorems). -/
example : V1.parseBytes (unkE.take 15) = .error .invalidUtf8 :=
  (v1_bytes_prefix_invalidUtf8 ascii_restriction_needed.1 15 (by decide +kernel)
    ascii_restriction_needed.2.2.1.2).1
example : isIncompleteV1 (V1.parseBytes (unkE.take 16)) = true :=
  v1_bytes_prefix_incomplete' ascii_restriction_needed.1 16 (by decide +kernel) (by decide +kernel)
/-- The text entry point needs no restriction (a `&str` buffer cannot be cut inside `é`, but the
model statement holds for every cut). -/
example (n : Nat) (hn : n < 18) : isIncompleteV1Str (V1.parseStr (unkE.take n)) = true :=
  v1_str_prefix_incomplete' unkE_str n hn

example : ∃ e, V1.fromStrAddresses (unkE.take 15) = .error e ∧ e.isIncomplete = true := by
  obtain ⟨c, h1, -, h3⟩ := fromStrAddresses_prefix_incomplete (x := unkE) (a := .unknown)
    (by rw [V1.fromStrAddresses_eq, unkE_str]; rfl)
  obtain rfl : 16 = c := Option.some.inj ((show V1.firstCR unkE = some 16 by decide +kernel).symm.trans h1)
  exact h3 15 (by decide)

/-- Non-vacuity: `PROXY UNKNOWN é\r\n` + `€` delivered as "PROXY UNKNOWN ", "é\r", "\n€". -/
example :
    receive V1.parseStr isIncompleteV1Str []
      [unkE.take 14, [0xC3, 0xA9, 0x0D], [0x0A, 0xE2, 0x82, 0xAC]] = some (.ok ⟨unkE, .unknown⟩) :=
  streaming_v1_str unkE_str [0xE2, 0x82, 0xAC] _ (by decide +kernel) (by decide +kernel)
/-- The validity hypothesis is needed: a header followed by a continuation byte. -/
example : receive V1.parseStr isIncompleteV1Str [] [unkE ++ [0x82]] = some (.error .invalidSuffix) := by
  decide +kernel

end C05
