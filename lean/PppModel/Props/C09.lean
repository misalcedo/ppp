import PppModel.Lemmas.Builder

/-!
# C09 — builder length field is never stale, truncated or silently wrong

The model includes the repair of defect D7 (`fix:` commit in /repo): `build`
writes the explicit length in force at that moment into the field.
-/

namespace C09
open V2 Spec.Builder

/-- `set_length` takes a `u16`. -/
def Op.wf : Op → Prop
  | .setLength (some l) => l < 65536
  | _ => True

theorem lengthFrom_lt (acc : Option Nat) (ops : List Op) (hacc : ∀ l, acc = some l → l < 65536)
    (hwf : ∀ op ∈ ops, Op.wf op) : ∀ l, lengthFrom acc ops = some l → l < 65536 := by
  induction ops generalizing acc with
  | nil => exact hacc
  | cons op ops ih =>
    refine ih _ (fun l hl => ?_) (fun op' h' => hwf op' (List.mem_cons_of_mem _ h'))
    cases op with
    | setLength l' => cases hl; exact hwf (.setLength (some l)) (List.mem_cons_self ..)
    | _ => exact hacc l hl

theorem length_field_shape {b : Builder} {vc afp : UInt8} {addr : Addresses}
    (h : Shape b vc afp addr none []) (ops : List Op) (hwf : ∀ op ∈ ops, Op.wf op) (out : B)
    (hr : b.run ops = some out) :
    16 ≤ out.length ∧
    be16 (byteAt out 14) (byteAt out 15) = (lengthInForce ops).getD (out.length - 16) := by
  obtain ⟨-, e, -, hfit, rfl⟩ := run_some h ops out hr
  rw [hdrOf_length, Nat.add_assoc, Nat.add_sub_cancel_left]
  refine ⟨Nat.le_add_right .., be16_hdrOf _ _ _ _ _ ?_⟩
  -- what is written into the field fits it: an explicit length by `Op.wf`, a computed one by `build`'s check
  cases hl : lengthFrom none ops with
  | some l => exact lengthFrom_lt none ops nofun hwf l hl
  | none => exact Nat.lt_succ_of_le (hfit hl)

/-- **C09.** If `build` succeeds the 16-bit length field equals the explicit
length in force at that moment, and otherwise the actual number of bytes
following the 16-byte fixed part. -/
theorem length_field (vc afp : UInt8) (ops : List Op) (hwf : ∀ op ∈ ops, Op.wf op) (out : B)
    (hr : (Builder.new vc afp).run ops = some out) :
    16 ≤ out.length ∧
    be16 (byteAt out 14) (byteAt out 15) = (lengthInForce ops).getD (out.length - 16) :=
  length_field_shape (shape_new vc afp) ops hwf out hr

theorem length_field_with (vc : UInt8) (t : Transport) (a : Addresses) (ops : List Op)
    (hwf : ∀ op ∈ ops, Op.wf op) (out : B) (hr : (Builder.withAddresses vc t a).run ops = some out) :
    16 ≤ out.length ∧
    be16 (byteAt out 14) (byteAt out 15) = (lengthInForce ops).getD (out.length - 16) :=
  length_field_shape (shape_withAddresses vc t a) ops hwf out hr

theorem overflow_fails_shape {b : Builder} {vc afp : UInt8} {addr : Addresses}
    (h : Shape b vc afp addr none []) (ops : List Op) (hno : lengthInForce ops = none) (out : B)
    (hr : b.run ops = some out) : out.length - 16 ≤ 65535 := by
  obtain ⟨-, e, -, hfit, rfl⟩ := run_some h ops out hr
  rw [hdrOf_length, Nat.add_assoc, Nat.add_sub_cancel_left]
  exact hfit hno

/-- With no explicit length in force, a payload of more than 65535 bytes makes
`build` fail instead of emitting a wrapped length. -/
theorem overflow_fails (vc afp : UInt8) (ops : List Op) (hno : lengthInForce ops = none) (out : B)
    (hr : (Builder.new vc afp).run ops = some out) : out.length - 16 ≤ 65535 :=
  overflow_fails_shape (shape_new vc afp) ops hno out hr

theorem overflow_fails_with (vc : UInt8) (t : Transport) (a : Addresses) (ops : List Op)
    (hno : lengthInForce ops = none) (out : B)
    (hr : (Builder.withAddresses vc t a).run ops = some out) : out.length - 16 ≤ 65535 :=
  overflow_fails_shape (shape_withAddresses vc t a) ops hno out hr

/-- The values that do not fit a 16-bit length. -/
def oversized : Payload → Prop
  | .slice bs => 65535 < bs.length
  | .tlv _ v => 65535 < v.length
  | .pair _ v => 65535 < v.length
  | _ => False

/- Trap: C09 and C20 do not import each other. A `match` of the shape of `oversized` that is already in
scope (`C20.oversize_refused` has one) is reused by Lean as the matcher of the later declaration, which
changes what `oversized`, or that statement, elaborates to. So the case split of `C20.oversize_refused`
is repeated here. -/
theorem enc_none_of_oversized (p : Payload) (h : oversized p) : enc p = none := by
  cases p with
  | slice bs => exact if_neg (Nat.not_le.mpr h)
  | tlv k v => exact if_neg (Nat.not_le.mpr h)
  | pair k v => exact if_neg (Nat.not_le.mpr h)
  | _ => exact h.elim

theorem oversized_value_fails_shape {b : Builder} {vc afp : UInt8} {addr : Addresses}
    (h : Shape b vc afp addr none []) (ops : List Op)
    (hbig : ∃ p ∈ ops.flatMap opPayloads, oversized p) : b.run ops = none := by
  cases hr : b.run ops with
  | none => rfl
  | some out =>
    obtain ⟨-, e, he, -, -⟩ := run_some h ops out hr
    obtain ⟨p, hp, hov⟩ := hbig
    obtain ⟨ep, hep⟩ := encAll_some_all he p hp
    rw [enc_none_of_oversized p hov] at hep; cases hep

/-- A single TLV value or byte-slice payload of more than 65535 bytes anywhere in
the history makes the history fail. -/
theorem oversized_value_fails (vc afp : UInt8) (ops : List Op)
    (hbig : ∃ p ∈ ops.flatMap opPayloads, oversized p) : (Builder.new vc afp).run ops = none :=
  oversized_value_fails_shape (shape_new vc afp) ops hbig

theorem oversized_value_fails_with (vc : UInt8) (t : Transport) (a : Addresses) (ops : List Op)
    (hbig : ∃ p ∈ ops.flatMap opPayloads, oversized p) : (Builder.withAddresses vc t a).run ops = none :=
  oversized_value_fails_shape (shape_withAddresses vc t a) ops hbig

/-- Non-vacuity, and the D7 witness: an explicit length set *after* the first
write is the one in the output. -/
example : (Builder.new 0x21 0x11).run [.writePayload (.int 1 7), .setLength (some 5)] =
    some [0x0D, 0x0A, 0x0D, 0x0A, 0x00, 0x0D, 0x0A, 0x51, 0x55, 0x49, 0x54, 0x0A, 0x21, 0x11, 0, 5, 7] := by
  decide +kernel

example : lengthInForce [.setLength (some 3), .writePayload (.int 1 7), .setLength none] = none := by decide +kernel

/-! ### Per-call failure (audit 3, X3 / C09 (a)): which call returns `Err`

`Builder.run` merges "a write returned `Err`" and "`build` returned `Err`". The
theorems below are about `Builder.step` (one call) and `Builder.build` separately,
on the state `b` reached by any accepted prefix `pre` of calls. -/

/-- The offending call fails in *every* builder state (reachable or not): a
`write_payload` of an oversized value, a `write_payloads` batch containing one,
a `write_tlv` with an oversized value. -/
theorem oversized_step_fails (b : Builder) (p : Payload) (hbig : oversized p) :
    b.step (.writePayload p) = none ∧ (∀ ps, p ∈ ps → b.step (.writePayloads ps) = none) :=
  have he := enc_none_of_oversized p hbig
  ⟨step_writePayload b p ▸ writeCall_refused b (List.mem_singleton_self p) he,
    fun ps hp => step_writePayloads b ps ▸ writeCall_refused b hp he⟩

/-- **C09 (the operation fails).** After any accepted history `pre` from either
constructor, a `write_payload` of a TLV value / (type, bytes) pair / byte slice of
more than 65535 bytes *itself* returns `Err`, and so does a `write_payloads`
batch containing one. (Nothing is written: `C20.oversize_refused`.) -/
theorem oversized_call_fails {vc afp : UInt8} {t : Transport} {a : Addresses} {b0 b : Builder}
    (_h0 : b0 = Builder.new vc afp ∨ b0 = Builder.withAddresses vc t a)
    (pre : List Op) (_hr : Builder.runFrom b0 pre = some b) (p : Payload) (hbig : oversized p) :
    b.step (.writePayload p) = none ∧ (∀ ps, p ∈ ps → b.step (.writePayloads ps) = none) :=
  oversized_step_fails b p hbig

/-- The same for `write_tlv`. -/
theorem oversized_tlv_call_fails (b : Builder) (k : UInt8) (v : B) (hbig : 65535 < v.length) :
    b.step (.writeTlv k v) = none :=
  (oversized_step_fails b (.tlv k v) hbig).1

/-- **Exact per-call success condition** (from `V2.step_eq_none_iff` on the shape that
`V2.runFrom_shape` gives): on the state reached by an accepted prefix `pre`, a
call returns `Err` iff the arithmetic guard `opOk` fails at the current buffer
length (16 fixed bytes, the address block, the payload written by `pre`). -/
theorem call_fails_iff_shape {b0 b : Builder} {vc afp : UInt8} {addr : Addresses}
    (h : Shape b0 vc afp addr none []) (pre : List Op) (hr : Builder.runFrom b0 pre = some b) (op : Op) :
    b.step op = none ↔ ¬ opOk (16 + (Spec.V2.addrBytes addr).length + payloadLen pre) op := by
  obtain ⟨e, he, hsh⟩ := runFrom_shape h pre b hr
  rw [payloadLen_of_body he]
  exact step_eq_none_iff hsh op

theorem call_fails_iff (vc afp : UInt8) (pre : List Op) {b : Builder}
    (hr : Builder.runFrom (Builder.new vc afp) pre = some b) (op : Op) :
    b.step op = none ↔ ¬ opOk (16 + payloadLen pre) op :=
  call_fails_iff_shape (shape_new vc afp) pre hr op

theorem call_fails_iff_with (vc : UInt8) (t : Transport) (a : Addresses) (pre : List Op) {b : Builder}
    (hr : Builder.runFrom (Builder.withAddresses vc t a) pre = some b) (op : Op) :
    b.step op = none ↔ ¬ opOk (16 + (Spec.V2.addrBytes a).length + payloadLen pre) op :=
  call_fails_iff_shape (shape_withAddresses vc t a) pre hr op

theorem overflow_fails_direct_shape {b : Builder} {vc afp : UInt8} {addr : Addresses}
    (h : Shape b vc afp addr none []) (ops : List Op) (hno : lengthInForce ops = none)
    (e : B) (he : body ops = some e) (hbig : 65535 < (Spec.V2.addrBytes addr).length + e.length) :
    b.run ops = none := by
  rw [run_exact h ops, payloadLen_of_body he, if_neg fun hc => hc.2.elim (· hno) (Nat.not_le.mpr hbig)]

/-- **C09 (direct form).** With no explicit length in force, a history whose
payload bytes (the specified encodings of everything written) exceed 65535 fails
instead of emitting a wrapped length. -/
theorem overflow_fails_direct (vc afp : UInt8) (ops : List Op) (hno : lengthInForce ops = none)
    (e : B) (he : body ops = some e) (hbig : 65535 < e.length) : (Builder.new vc afp).run ops = none :=
  overflow_fails_direct_shape (shape_new vc afp) ops hno e he ((Nat.zero_add _).symm ▸ hbig)

theorem overflow_fails_direct_with (vc : UInt8) (t : Transport) (a : Addresses) (ops : List Op)
    (hno : lengthInForce ops = none) (e : B) (he : body ops = some e)
    (hbig : 65535 < (Spec.V2.addrBytes a).length + e.length) :
    (Builder.withAddresses vc t a).run ops = none :=
  overflow_fails_direct_shape (shape_withAddresses vc t a) ops hno e he hbig

theorem build_only_failure_shape {b0 b : Builder} {vc afp : UInt8} {addr : Addresses}
    (h : Shape b0 vc afp addr none []) (ops : List Op) (hr : Builder.runFrom b0 ops = some b) :
    (lengthInForce ops = none →
      (b.build = none ↔ 65535 < (Spec.V2.addrBytes addr).length + payloadLen ops)) ∧
    (∀ l, lengthInForce ops = some l → b.build ≠ none) := by
  obtain ⟨e, he, hsh⟩ := runFrom_shape h ops b hr
  rw [build_shape hsh, payloadLen_of_body he, buildOf_eq_none_iff]
  exact ⟨fun hno => and_iff_right hno,
    fun l hl hn => Option.some_ne_none l (hl.symm.trans (buildOf_eq_none_iff.mp hn).1)⟩

/-- **C09 (`build` is the call that fails).** When every call of a history was
accepted (state `b` reached) and no explicit length is in force, `build` itself
returns `Err` exactly when the payload bytes exceed 65535; with an explicit
length in force `build` never fails. -/
theorem build_only_failure (vc afp : UInt8) (ops : List Op) {b : Builder}
    (hr : Builder.runFrom (Builder.new vc afp) ops = some b) :
    (lengthInForce ops = none → (b.build = none ↔ 65535 < payloadLen ops)) ∧
    (∀ l, lengthInForce ops = some l → b.build ≠ none) := by
  have := build_only_failure_shape (shape_new vc afp) ops hr
  rwa [show (Spec.V2.addrBytes .unspec).length = 0 from rfl, Nat.zero_add] at this

theorem build_only_failure_with (vc : UInt8) (t : Transport) (a : Addresses) (ops : List Op) {b : Builder}
    (hr : Builder.runFrom (Builder.withAddresses vc t a) ops = some b) :
    (lengthInForce ops = none →
      (b.build = none ↔ 65535 < (Spec.V2.addrBytes a).length + payloadLen ops)) ∧
    (∀ l, lengthInForce ops = some l → b.build ≠ none) :=
  build_only_failure_shape (shape_withAddresses vc t a) ops hr

/-- Non-vacuity of `oversized_call_fails`: a 65536-byte slice is oversized, and an
accepted prefix exists. -/
example : oversized (.slice (List.replicate 65536 0)) := by
  simp only [oversized, List.length_replicate]; omega

example : ∃ b, Builder.runFrom (Builder.new 0x21 0x11) [.writePayload (.int 1 7)] = some b := ⟨_, rfl⟩

/-- Non-vacuity of `build_only_failure` / `overflow_fails_direct`: the two accepted
writes of `V2.crossing` (65535 bytes, then one more) reach a state, carry no
explicit length, and total 65536 payload bytes. -/
example : (∃ b, Builder.runFrom (Builder.new 0x21 0x11) (crossing.take 2) = some b) ∧
    lengthInForce (crossing.take 2) = none ∧ payloadLen (crossing.take 2) = 65536 :=
  have h : opsOk 16 (crossing.take 2) := ⟨crossing_accepted.1, crossing_accepted.2.1, trivial⟩
  ⟨(runFrom_isSome_iff (shape_new 0x21 0x11) _).mpr h, rfl, payloadLen_crossing⟩

example (bs : B) (h : bs.length = 65535) :
    body [.writePayload (.slice bs), .writePayload (.slice [0])] = some (bs ++ [0]) ∧
    65535 < (bs ++ [0]).length :=
  ⟨body_two (enc_slice (Nat.le_of_eq h)) (enc_slice (by decide)),
    by rw [List.length_append, h]; decide⟩

end C09
