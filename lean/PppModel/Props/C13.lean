import PppModel.Props.C11
import PppModel.Props.C07

/-!
# C13 — re-encoding a parsed v2 header from its parts reproduces it byte for byte
-/

namespace C13
open V2 Spec.Builder

/-- What an accepted header is, in the terms the builder needs: it is the wire encoding of its own
decoded fields and some `rest`; its two byte views partition the payload; with a specified family
the views are the address block and `rest`. -/
theorem parsed_parts {x : B} {h : Header} (hp : V2.parse x = .ok h) :
    ∃ rest, (Spec.V2.addrBytes h.addresses).length + rest.length ≤ 65535 ∧
      h.header = Spec.V2.encode h.command h.protocol h.addresses rest ∧
      h.addressBytes ++ h.tlvBytes = Spec.V2.addrBytes h.addresses ++ rest ∧
      (h.addressFamily ≠ .unspec → h.tlvBytes = rest) ∧
      byteAt h.header 12 = Spec.V2.versionCommand h.command ∧
      byteAt h.header 13 = Spec.V2.familyTransport h.addresses.family h.protocol ∧
      vcByte h.version h.command = Spec.V2.versionCommand h.command := by
  obtain ⟨rest, -, hle, he, -⟩ := accepted_is_encoding hp
  have hhdr : h.header = Spec.V2.encode h.command h.protocol h.addresses rest := congrArg Header.header he
  refine ⟨rest, hle, hhdr, by rw [h.views_partition, hhdr, encode_drop16], fun hfam => ?_,
    by rw [hhdr, encode_eq_frame, frame_vc], by rw [hhdr, encode_eq_frame, frame_afp], ?_⟩
  · rw [he]; exact (views_of_encode _ _ _ rest hfam).2
  · cases h.version; exact vc_eq_spec _

/-- **Any route, fresh builder.** Started from the header's own control bytes, whatever calls
write the header's payload (address bytes, then TLV bytes) rebuild the header. -/
theorem rebuild_of_body {x : B} {h : Header} (hp : V2.parse x = .ok h) (ops : List Op)
    (he : Spec.Builder.body ops = some (h.addressBytes ++ h.tlvBytes)) (hno : lengthInForce ops = none) :
    (Builder.new (byteAt h.header 12) (byteAt h.header 13)).run ops = some h.header := by
  obtain ⟨rest, hle, hhdr, hpart, -, hb12, hb13, -⟩ := parsed_parts hp
  rw [hb12, hb13, hhdr]
  -- the fresh builder's own address block is empty; `[] ++ _` left to unification is slow to check
  exact run_eq_encode h.command h.protocol h.addresses rest hle (shape_new _ _) ops _ he hno
    ((List.nil_append _).trans hpart)

/-- **Any route, builder constructed from the decoded addresses** (family specified): whatever
calls write the TLV bytes rebuild the header. -/
theorem rebuild_with_of_body {x : B} {h : Header} (hp : V2.parse x = .ok h)
    (hfam : h.addressFamily ≠ .unspec) (ops : List Op)
    (he : Spec.Builder.body ops = some h.tlvBytes) (hno : lengthInForce ops = none) :
    (Builder.withAddresses (vcByte h.version h.command) h.protocol h.addresses).run ops = some h.header := by
  obtain ⟨rest, hle, hhdr, -, htlv, -, -, hvc⟩ := parsed_parts hp
  rw [hvc, hhdr]
  exact run_eq_encode _ _ _ rest hle (shape_withAddresses_spec ..) ops rest (htlv hfam ▸ he) hno rfl

/-- Both byte views of an accepted header fit a 16-bit length. -/
theorem views_le {x : B} {h : Header} (hp : V2.parse x = .ok h) :
    h.addressBytes.length ≤ 65535 ∧ h.tlvBytes.length ≤ 65535 := by
  obtain ⟨rest, hle, -, hpart, -⟩ := parsed_parts hp
  have hlen : h.addressBytes.length + h.tlvBytes.length ≤ 65535 := by
    rw [← List.length_append, hpart, List.length_append]; exact hle
  exact ⟨Nat.le_trans (Nat.le_add_right ..) hlen, Nat.le_trans (Nat.le_add_left ..) hlen⟩

/-- **C13 (raw).** Feeding the control bytes, the address bytes and the TLV
bytes back through the builder yields exactly the original header bytes. -/
theorem rebuild_raw {x : B} {h : Header} (hp : V2.parse x = .ok h) :
    (Builder.new (byteAt h.header 12) (byteAt h.header 13)).run
      [.writePayload (.slice h.addressBytes), .writePayload (.slice h.tlvBytes)] = some h.header ∧
    (Builder.new (byteAt h.header 12) (byteAt h.header 13)).run
      [.writePayload (.slice h.addressBytes), .writePayload (.tlvSection h.tlvBytes)] = some h.header :=
  ⟨rebuild_of_body hp _ (body_two (enc_slice (views_le hp).1) (enc_slice (views_le hp).2)) rfl,
    rebuild_of_body hp _ (body_two (enc_slice (views_le hp).1) rfl) rfl⟩

/-- The decoded items of a well-formed section, as payloads. -/
def itemPayloads (items : List Item) : List Payload :=
  items.filterMap (fun i => match i with | .ok t => some (.tlv t.kind t.value) | .error _ => none)

theorem encAll_itemPayloads (items : List Item)
    (hv : ∀ it ∈ items, ∀ t, it = .ok t → t.value.length ≤ 65535) :
    encAll (itemPayloads items) = some (Spec.Tlv.okBytes items) := by
  induction items with
  | nil => rfl
  | cons it its ih =>
    rw [List.forall_mem_cons] at hv
    cases it with
    | error e => exact ih hv.2
    | ok t => exact encAll_cons_some.mpr ⟨_, _, enc_tlv_of_le t (hv.1 t rfl), ih hv.2, rfl⟩

/-- The decoded items of a well-formed section encode back to the section. -/
theorem encAll_items {h : Header} (hwf : ∀ it ∈ h.tlvs, Spec.Tlv.isErr it = false) :
    encAll (itemPayloads h.tlvs) = some h.tlvBytes := by
  rw [encAll_itemPayloads h.tlvs (by rw [Header.tlvs_eq_walk]; exact walkFrom_values_le _ _)]
  exact congrArg some ((C11.tiling_complete_iff h.tlvBytes).mpr hwf)

/-- **C13 (decoded items).** When the TLV section is well-formed, feeding the
decoded items back yields the original header bytes. -/
theorem rebuild_items {x : B} {h : Header} (hp : V2.parse x = .ok h)
    (hwf : ∀ it ∈ h.tlvs, Spec.Tlv.isErr it = false) :
    (Builder.new (byteAt h.header 12) (byteAt h.header 13)).run
      [.writePayload (.slice h.addressBytes), .writePayloads (itemPayloads h.tlvs)] = some h.header :=
  rebuild_of_body hp _ (body_write_batch (enc_slice (views_le hp).1) (encAll_items hwf)) rfl

/-- **C13 (decoded addresses).** When an address family is specified, rebuilding
from the decoded address value and the TLV section yields the original bytes. -/
theorem rebuild_from_addresses {x : B} {h : Header} (hp : V2.parse x = .ok h)
    (hfam : h.addressFamily ≠ .unspec) :
    (Builder.withAddresses (vcByte h.version h.command) h.protocol h.addresses).run
      [.writePayload (.tlvSection h.tlvBytes)] = some h.header :=
  rebuild_with_of_body hp hfam _ (body_one rfl) rfl

/-- **C13 (raw, one batch).** The same parts handed over as a single batch — the
first and only write of a fresh builder. -/
theorem rebuild_raw_batched {x : B} {h : Header} (hp : V2.parse x = .ok h) :
    (Builder.new (byteAt h.header 12) (byteAt h.header 13)).run
      [.writePayloads [.slice h.addressBytes, .slice h.tlvBytes]] = some h.header :=
  rebuild_of_body hp _ ((body_batch _).trans (body_two (enc_slice (views_le hp).1) (enc_slice (views_le hp).2))) rfl

/-- **C13 (decoded addresses and items, one batch).** -/
theorem rebuild_from_addresses_items {x : B} {h : Header} (hp : V2.parse x = .ok h)
    (hfam : h.addressFamily ≠ .unspec) (hwf : ∀ it ∈ h.tlvs, Spec.Tlv.isErr it = false) :
    (Builder.withAddresses (vcByte h.version h.command) h.protocol h.addresses).run
      [.writePayloads (itemPayloads h.tlvs)] = some h.header :=
  rebuild_with_of_body hp hfam _ ((body_batch _).trans (encAll_items hwf)) rfl

/-- Non-vacuity: an accepted IPv4 header with a well-formed section rebuilds. -/
example :
    (V2.parse [0x0D, 0x0A, 0x0D, 0x0A, 0x00, 0x0D, 0x0A, 0x51, 0x55, 0x49, 0x54, 0x0A,
               0x21, 0x11, 0x00, 0x10, 127, 0, 0, 1, 192, 168, 1, 1, 0, 80, 1, 187,
               4, 0, 1, 42]).toOption.map (fun h =>
        (Builder.new (byteAt h.header 12) (byteAt h.header 13)).run
          [.writePayload (.slice h.addressBytes), .writePayloads (itemPayloads h.tlvs)] == some h.header) =
      some true := by decide +kernel

-- `hitems` and `hv` are not needed: `hfit` bounds every value (`C07.roundtrip`).
set_option linter.unusedVariables false in
/-- **C13 (augment).** A proxy that parses a header with a specified family and a well-formed
TLV section, and re-emits it from the decoded parts with further TLVs appended, produces (whenever
the result still fits) a header that parses back to the same command, transport and addresses
and to the old TLVs followed by the new ones, in order. -/
theorem augment {x : B} {h : Header} (_hp : V2.parse x = .ok h)
    (hfam : h.addressFamily ≠ .unspec) (items : List Tlv) (hitems : h.tlvs = items.map .ok)
    (extra : List Tlv) (hv : ∀ t ∈ extra, t.value.length ≤ 65535)
    (hfit : (Spec.V2.addrBytes h.addresses).length + ((items ++ extra).flatMap Spec.Tlv.enc).length ≤ 65535)
    (trail : B) :
    ∃ out h', (Builder.withAddresses (vcByte h.version h.command) h.protocol h.addresses).run
          (C07.tlvOps (items ++ extra)) = some out ∧
      V2.parse (out ++ trail) = .ok h' ∧ h'.header = out ∧
      h'.command = h.command ∧ h'.protocol = h.protocol ∧ h'.addresses = h.addresses ∧
      h'.tlvs = (items ++ extra).map .ok := by
  obtain ⟨out, h', hr, hp', hh, -, hc, hpr, ha, ht⟩ :=
    C07.roundtrip h.command h.protocol h.addresses (items ++ extra) hfit trail
  cases hver : h.version
  exact ⟨out, h', hr, hp', hh, hc, hpr, ha, ht hfam⟩

/-- Non-vacuity of `augment`: the accepted header of the previous example, re-emitted with one more
TLV, parses back to the old item followed by the new one. -/
example :
    (V2.parse [0x0D, 0x0A, 0x0D, 0x0A, 0x00, 0x0D, 0x0A, 0x51, 0x55, 0x49, 0x54, 0x0A,
               0x21, 0x11, 0x00, 0x10, 127, 0, 0, 1, 192, 168, 1, 1, 0, 80, 1, 187,
               4, 0, 1, 42]).toOption.map (fun h =>
        ((Builder.withAddresses (vcByte h.version h.command) h.protocol h.addresses).run
          (C07.tlvOps ([⟨4, [42]⟩] ++ [⟨5, [1, 2]⟩]))).map (fun out =>
            (V2.parse out).toOption.map (fun h' => h'.tlvs == [.ok ⟨4, [42]⟩, .ok ⟨5, [1, 2]⟩] && h'.addresses == h.addresses))) =
      some (some (some true)) := by decide +kernel

/-! ### Further one-step corollaries (audit 3, C13 (a)) -/

/-- **C13 (decoded addresses, section as a byte slice).** `rebuild_from_addresses`
with the TLV section handed over as a plain byte slice. -/
theorem rebuild_from_addresses_slice {x : B} {h : Header} (hp : V2.parse x = .ok h)
    (hfam : h.addressFamily ≠ .unspec) :
    (Builder.withAddresses (vcByte h.version h.command) h.protocol h.addresses).run
      [.writePayload (.slice h.tlvBytes)] = some h.header :=
  rebuild_with_of_body hp hfam _ (body_one (enc_slice (views_le hp).2)) rfl

/-- **C13 (`Builder::new` from the decoded fields).** The control bytes recomputed
from the decoded version, command, family and transport, the decoded address
value written as a payload, then the TLV section (as a byte slice, or as a
`TypeLengthValues`): the original header bytes. -/
theorem rebuild_new_addresses {x : B} {h : Header} (hp : V2.parse x = .ok h)
    (hfam : h.addressFamily ≠ .unspec) :
    (Builder.new (vcByte h.version h.command) (afpByte h.addressFamily h.protocol)).run
      [.writePayload (.addresses h.addresses), .writePayload (.slice h.tlvBytes)] = some h.header ∧
    (Builder.new (vcByte h.version h.command) (afpByte h.addressFamily h.protocol)).run
      [.writePayload (.addresses h.addresses), .writePayload (.tlvSection h.tlvBytes)] = some h.header := by
  obtain ⟨rest, hle, hhdr, -, htlv, -, -, hvc⟩ := parsed_parts hp
  have h1 : enc (.slice h.tlvBytes) = some rest := htlv hfam ▸ enc_slice (views_le hp).2
  have h2 : enc (.tlvSection h.tlvBytes) = some rest := congrArg some (htlv hfam)
  rw [hvc, afpByte_eq_spec, hhdr]
  exact ⟨run_eq_encode _ _ _ rest hle (shape_new _ _) _ _ (body_two rfl h1) rfl rfl,
    run_eq_encode _ _ _ rest hle (shape_new _ _) _ _ (body_two rfl h2) rfl rfl⟩

/-- Non-vacuity: the accepted IPv4 header of the examples above has a specified family and
rebuilds from the decoded fields through `Builder::new`. -/
example :
    (V2.parse [0x0D, 0x0A, 0x0D, 0x0A, 0x00, 0x0D, 0x0A, 0x51, 0x55, 0x49, 0x54, 0x0A,
               0x21, 0x11, 0x00, 0x10, 127, 0, 0, 1, 192, 168, 1, 1, 0, 80, 1, 187,
               4, 0, 1, 42]).toOption.map (fun h =>
        h.addressFamily != .unspec &&
        (Builder.new (vcByte h.version h.command) (afpByte h.addressFamily h.protocol)).run
          [.writePayload (.addresses h.addresses), .writePayload (.slice h.tlvBytes)] == some h.header &&
        (Builder.withAddresses (vcByte h.version h.command) h.protocol h.addresses).run
          [.writePayload (.slice h.tlvBytes)] == some h.header) =
      some true := by decide +kernel

end C13
