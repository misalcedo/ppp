import PppModel.Spec.V1
import PppModel.Lemmas.V1Entry
import PppModel.Lemmas.V1NoPanic

/-!
# C15 — v1 header views reconstruct the header text

A *well-formed header* is an `h : V1.Header` whose text and decoded addresses are
related by the line grammar: `Spec.V1.Line V1.ip6Model h.header h.addresses`.  Every
header returned by `V1.parseBytes` / `V1.parseStr` is well-formed
(`wellFormed_of_parseBytes`, `wellFormed_of_parseStr`, from `V1.parseBytes_ok_line` /
`V1.parseStr_ok_line`).

For every well-formed header:

* `protocol_matches` — the reported protocol keyword is the second field of the line
  and matches the kind of the decoded addresses;
* `reassemble`, `reassemble_sep` — `PROXY`, a space, the protocol, the (separated)
  address text and CR LF re-assemble to the header text;
* `addressesStr_tcp`, `addressesStr_unknown`, `addressesStr_cases` — what the address text
  is, case by case;
* `display_is_header`, `owned_views` — `Display` prints the header text, `to_owned`
  keeps every view (`rfl` in the model, ownership is erased);
* `addressesStr_no_panic` — the accessor `addresses_str` (a `usize` subtraction and two
  `&str` slices, each of which panics off a char boundary) returns normally, with the
  value of the pure model.

Each statement is then specialised to `V1.parseBytes x = .ok h` and `V1.parseStr x = .ok h`.
-/

namespace C15

open V1

/-! ## Accepted headers are well-formed -/

theorem wellFormed_of_parseBytes {x : B} {h : Header} (hp : parseBytes x = .ok h) :
    Spec.V1.Line ip6Model h.header h.addresses := by
  obtain ⟨-, -, -, -, hl⟩ := parseBytes_ok_line hp
  exact hl

theorem wellFormed_of_parseStr {x : B} {h : Header} (hp : parseStr x = .ok h) :
    Spec.V1.Line ip6Model h.header h.addresses := by
  obtain ⟨-, -, -, hl⟩ := parseStr_ok_line hp
  exact hl

/-! ## The protocol keyword -/

/-- The protocol keyword matches the kind of the decoded addresses (by definition). -/
theorem protocol_eq (h : Header) :
    h.protocol = (match h.addresses with | .unknown => UNKNOWN | .tcp4 _ => TCP4 | .tcp6 _ => TCP6) := by
  cases h with
  | mk hd ad => cases ad <;> rfl

/-! ## `addresses_str` on a header of that shape -/

theorem addressesStr_of_shape {h : Header} {between : B}
    (e : h.header = PROXY ++ [SP] ++ h.protocol ++ between ++ CRLF) :
    h.addressesStr = (if between.head? = some SP then between.drop 1 else between) := by
  unfold Header.addressesStr
  -- the instance is named because the search for `LawfulBEq UInt8` tries the order classes first
  have : LawfulBEq UInt8 := instLawfulBEq
  simp only [slice_of_shape e, beq_iff_eq]

theorem addressesStr_bare {h : Header} (e : h.header = PROXY ++ [SP] ++ h.protocol ++ [] ++ CRLF) :
    h.addressesStr = [] :=
  (addressesStr_of_shape e).trans (if_neg nofun)

/-- With a space after the protocol keyword, `addresses_str` is what follows that space, and
the single-space re-assembly is the header text. -/
theorem addressesStr_sp {h : Header} {text : B}
    (e : h.header = PROXY ++ [SP] ++ h.protocol ++ SP :: text ++ CRLF) :
    h.addressesStr = text ∧ h.header = PROXY ++ [SP] ++ h.protocol ++ [SP] ++ h.addressesStr ++ CRLF := by
  have ha : h.addressesStr = text := (addressesStr_of_shape e).trans (if_pos rfl)
  exact ⟨ha, by rw [ha, e]; simp only [List.append_assoc, List.cons_append, List.nil_append]⟩

theorem header_length {h : Header} {between : B}
    (e : h.header = PROXY ++ [SP] ++ h.protocol ++ between ++ CRLF) :
    h.header.length = 6 + h.protocol.length + 2 + between.length := by
  rw [e]; simp only [List.length_append, List.length_cons, List.length_nil, PROXY, CRLF]
  exact Nat.add_right_comm ..

/-! ## The statements of C15 -/

/-- **C15 (protocol).** The reported protocol keyword is the second field of the line —
it follows `PROXY` and a space and is followed by a space or by the CR — and it matches
the kind of the decoded addresses. -/
theorem protocol_matches (h : Header) (hl : Spec.V1.Line ip6Model h.header h.addresses) :
    ∃ rest, h.header = PROXY ++ [SP] ++ h.protocol ++ rest ∧
      (rest.head? = some SP ∨ rest.head? = some CR) ∧
      h.protocol = (match h.addresses with | .unknown => UNKNOWN | .tcp4 _ => TCP4 | .tcp6 _ => TCP6) := by
  obtain ⟨between, e, hb, -⟩ := header_shape h hl
  refine ⟨between ++ CRLF, by rw [e, List.append_assoc], ?_, protocol_eq h⟩
  rcases hb with rfl | ⟨t, rfl⟩
  · exact .inr rfl
  · exact .inl rfl

/-- **C15 (re-assembly).** The header text is `PROXY`, a space, the protocol keyword, a
middle part and CR LF; the middle part is empty or starts with a space; and
`addresses_str` is the middle part without that space. -/
theorem reassemble (h : Header) (hl : Spec.V1.Line ip6Model h.header h.addresses) :
    ∃ between, h.header = PROXY ++ [SP] ++ h.protocol ++ between ++ CRLF ∧
      h.addressesStr = (if between.head? = some SP then between.drop 1 else between) ∧
      (between = [] ∨ between.head? = some SP) := by
  obtain ⟨between, e, hb, -⟩ := header_shape h hl
  exact ⟨between, e, addressesStr_of_shape e, hb.imp_right fun h => by obtain ⟨t, rfl⟩ := h; rfl⟩

/-- **C15 (re-assembly, clean form).** `PROXY`, a space, the protocol keyword, the
separated address text and CR LF re-assemble to the header text; the separator is a
single space, or nothing when the line is a bare `PROXY UNKNOWN`. -/
theorem reassemble_sep (h : Header) (hl : Spec.V1.Line ip6Model h.header h.addresses) :
    ∃ sep, (sep = [] ∨ sep = [SP]) ∧
      h.header = PROXY ++ [SP] ++ h.protocol ++ sep ++ h.addressesStr ++ CRLF := by
  obtain ⟨between, e, hb, -⟩ := header_shape h hl
  rcases hb with rfl | ⟨t, rfl⟩
  · exact ⟨[], .inl rfl, by rw [addressesStr_bare e, List.append_nil]; exact e⟩
  · exact ⟨[SP], .inr rfl, (addressesStr_sp e).2⟩

/-! ### The content of the address text -/

/-- On an address line the address text is the four fields, separated by single spaces. -/
theorem addressesStr_tcp {h : Header} {K : B} (hp : h.protocol = K) (sa da sp dp : B)
    (e : h.header = PROXY ++ [SP] ++ K ++ [SP] ++ sa ++ [SP] ++ da ++ [SP] ++ sp ++ [SP] ++ dp ++ CRLF) :
    h.addressesStr = sa ++ [SP] ++ da ++ [SP] ++ sp ++ [SP] ++ dp := by
  rw [tcp_between, ← hp] at e
  exact (addressesStr_sp e).1

/-- On an `UNKNOWN` line with tail `tail` (empty, or a space and arbitrary text) the
address text is the tail without its leading space. -/
theorem addressesStr_unknown (h : Header) (tail : B) (ha : h.addresses = .unknown)
    (ht : tail = [] ∨ tail.head? = some SP)
    (e : h.header = PROXY ++ [SP] ++ UNKNOWN ++ tail ++ CRLF) :
    h.addressesStr = tail.drop 1 := by
  have hp : h.protocol = UNKNOWN := by rw [Header.protocol, ha]; rfl
  rw [← hp] at e
  rw [addressesStr_of_shape e]
  rcases ht with rfl | ht
  · rfl
  · rw [if_pos ht]

/-- A bare `PROXY UNKNOWN\r\n` has an empty address text. -/
theorem addressesStr_unknown_nil (h : Header) (ha : h.addresses = .unknown)
    (e : h.header = PROXY ++ [SP] ++ UNKNOWN ++ CRLF) : h.addressesStr = [] :=
  addressesStr_unknown h [] ha (Or.inl rfl) (by rw [e]; rfl)

/-- **C15 (content).** Case by case, a well-formed header is one of the three line forms
of the grammar (with the field texts denoting the decoded addresses), and its address
text is: the four fields separated by single spaces (TCP4, TCP6); the free text after
`UNKNOWN` without its leading space (UNKNOWN). -/
theorem addressesStr_cases (h : Header) (hl : Spec.V1.Line ip6Model h.header h.addresses) :
    (∃ tail, h.addresses = .unknown ∧ (tail = [] ∨ tail.head? = some SP) ∧ crFree tail ∧
        h.header = PROXY ++ [SP] ++ UNKNOWN ++ tail ++ CRLF ∧ h.addressesStr = tail.drop 1) ∨
    (∃ sa da sp dp a b p q,
        h.addresses = .tcp4 { srcAddr := a, srcPort := p, dstAddr := b, dstPort := q } ∧
        Spec.V1.Ipv4Text sa a ∧ Spec.V1.Ipv4Text da b ∧ Spec.V1.PortText sp p ∧ Spec.V1.PortText dp q ∧
        h.header = PROXY ++ [SP] ++ TCP4 ++ [SP] ++ sa ++ [SP] ++ da ++ [SP] ++ sp ++ [SP] ++ dp ++ CRLF ∧
        h.addressesStr = sa ++ [SP] ++ da ++ [SP] ++ sp ++ [SP] ++ dp) ∨
    (∃ sa da sp dp a b p q,
        h.addresses = .tcp6 { srcAddr := a, srcPort := p, dstAddr := b, dstPort := q } ∧
        ip6Model sa a ∧ ip6Model da b ∧ Spec.V1.PortText sp p ∧ Spec.V1.PortText dp q ∧
        h.header = PROXY ++ [SP] ++ TCP6 ++ [SP] ++ sa ++ [SP] ++ da ++ [SP] ++ sp ++ [SP] ++ dp ++ CRLF ∧
        h.addressesStr = sa ++ [SP] ++ da ++ [SP] ++ sp ++ [SP] ++ dp) := by
  obtain ⟨hd, ad⟩ := h
  simp only at hl
  cases hl with
  | unknown tail h1 h2 =>
    exact .inl ⟨tail, rfl, h1, h2, rfl, addressesStr_unknown _ tail rfl h1 rfl⟩
  | tcp4 sa da sp dp a b p q hsa hda hsp hdp =>
    exact .inr (.inl ⟨sa, da, sp, dp, a, b, p, q, rfl, hsa, hda, hsp, hdp, rfl,
      addressesStr_tcp (K := TCP4) rfl sa da sp dp rfl⟩)
  | tcp6 sa da sp dp a b p q hsa hda hsp hdp =>
    exact .inr (.inr ⟨sa, da, sp, dp, a, b, p, q, rfl, hsa, hda, hsp, hdp, rfl,
      addressesStr_tcp (K := TCP6) rfl sa da sp dp rfl⟩)

/-- On an address line (`TCP4` / `TCP6`) the separator is a single space. -/
theorem reassemble_tcp (h : Header) (hl : Spec.V1.Line ip6Model h.header h.addresses)
    (ha : h.addresses ≠ .unknown) :
    h.header = PROXY ++ [SP] ++ h.protocol ++ [SP] ++ h.addressesStr ++ CRLF := by
  obtain ⟨between, e, hb, hne⟩ := header_shape h hl
  rcases hb with rfl | ⟨t, rfl⟩
  · exact absurd rfl (hne ha)
  · exact (addressesStr_sp e).2

/-! ### Which separator -/

/-- **C15 (re-assembly, which separator).** `reassemble_sep` says the header text is
`PROXY␠<protocol><sep><addresses_str>\r\n` with `sep` empty or one space, and the two
views `protocol`, `addresses_str` alone do not tell which (`"PROXY UNKNOWN\r\n"` and
`"PROXY UNKNOWN \r\n"` have the same views).  The length of the header text does: the
single-space re-assembly is the header text exactly when the header is not the bare
`PROXY␠<protocol>\r\n` (`6 + protocol.len() + 2` bytes). -/
theorem sep_iff (h : Header) (hl : Spec.V1.Line ip6Model h.header h.addresses) :
    h.header = PROXY ++ [SP] ++ h.protocol ++ [SP] ++ h.addressesStr ++ CRLF ↔
      h.header.length ≠ 6 + h.protocol.length + 2 := by
  obtain ⟨between, e, hb, -⟩ := header_shape h hl
  have hlen := header_length e
  rcases hb with rfl | ⟨t, rfl⟩
  · -- bare line: the single-space form is one byte too long
    refine iff_of_false (fun e2 => ?_) (fun hne => hne hlen)
    rw [addressesStr_bare e, List.append_nil] at e2
    exact absurd (Nat.add_left_cancel (hlen.symm.trans (header_length e2))) (by decide)
  · exact iff_of_true (addressesStr_sp e).2 (hlen ▸ Nat.ne_of_gt (Nat.lt_add_of_pos_right (Nat.succ_pos _)))

/-- The complementary case: the empty-separator re-assembly is the header text exactly when
the header is the bare `PROXY␠<protocol>\r\n`; then `addresses_str` is empty. -/
theorem sep_nil_iff (h : Header) (hl : Spec.V1.Line ip6Model h.header h.addresses) :
    h.header = PROXY ++ [SP] ++ h.protocol ++ h.addressesStr ++ CRLF ↔
      h.header.length = 6 + h.protocol.length + 2 := by
  obtain ⟨between, e, hb, -⟩ := header_shape h hl
  have hlen := header_length e
  rcases hb with rfl | ⟨t, rfl⟩
  · exact iff_of_true (by rw [addressesStr_bare e]; exact e) hlen
  · -- a space after the keyword: the empty-separator form is one byte too short
    refine iff_of_false (fun e2 => ?_) (hlen ▸ Nat.ne_of_gt (Nat.lt_add_of_pos_right (Nat.succ_pos _)))
    rw [(addressesStr_sp e).1] at e2
    exact absurd (Nat.add_left_cancel (hlen.symm.trans (header_length e2))) (Nat.succ_ne_self _)

/-- Exactly one of the two re-assemblies is the header text. -/
theorem sep_exclusive (h : Header) (hl : Spec.V1.Line ip6Model h.header h.addresses) :
    (h.header = PROXY ++ [SP] ++ h.protocol ++ [SP] ++ h.addressesStr ++ CRLF ∧
      h.header ≠ PROXY ++ [SP] ++ h.protocol ++ h.addressesStr ++ CRLF) ∨
    (h.header = PROXY ++ [SP] ++ h.protocol ++ h.addressesStr ++ CRLF ∧
      h.header ≠ PROXY ++ [SP] ++ h.protocol ++ [SP] ++ h.addressesStr ++ CRLF) := by
  by_cases hk : h.header.length = 6 + h.protocol.length + 2
  · exact .inr ⟨(sep_nil_iff h hl).mpr hk, fun e => (sep_iff h hl).mp e hk⟩
  · exact .inl ⟨(sep_iff h hl).mpr hk, fun e => hk ((sep_nil_iff h hl).mp e)⟩

/-! ### `Display` and `to_owned` -/

/-- `Display` prints the header text. -/
theorem display_is_header (h : Header) : h.display = h.header := rfl

/-- `to_owned` keeps the header, hence every view of it (ownership is erased in the model). -/
theorem owned_views (h : Header) : h.toOwned = h := rfl

theorem owned_views_all (h : Header) :
    h.toOwned.header = h.header ∧ h.toOwned.addresses = h.addresses ∧ h.toOwned.protocol = h.protocol ∧
      h.toOwned.addressesStr = h.addressesStr ∧ h.toOwned.addressesStrP = h.addressesStrP ∧
      h.toOwned.display = h.display :=
  ⟨rfl, rfl, rfl, rfl, rfl, rfl⟩

/-! ## `addresses_str` never panics on an accepted header -/

/-- **C15 (no panic).** On every well-formed header whose text is a `&str`,
`addresses_str` returns normally with the value of the pure model: the subtraction does
not underflow, `start ≤ end ≤ len`, both ends of the first slice and the start of the
second slice are char boundaries. -/
theorem addressesStr_no_panic (h : Header) (hl : Spec.V1.Line ip6Model h.header h.addresses)
    (hv : Utf8.valid h.header = true) : h.addressesStrP = .val h.addressesStr :=
  V1.addressesStr_no_panic h hl hv

/-! ## The entry points -/

section EntryPoints
variable {x : B} {h : Header}

theorem parseBytes_protocol_matches (hp : parseBytes x = .ok h) :
    ∃ rest, h.header = PROXY ++ [SP] ++ h.protocol ++ rest ∧
      (rest.head? = some SP ∨ rest.head? = some CR) ∧
      h.protocol = (match h.addresses with | .unknown => UNKNOWN | .tcp4 _ => TCP4 | .tcp6 _ => TCP6) :=
  protocol_matches h (wellFormed_of_parseBytes hp)

theorem parseStr_protocol_matches (hp : parseStr x = .ok h) :
    ∃ rest, h.header = PROXY ++ [SP] ++ h.protocol ++ rest ∧
      (rest.head? = some SP ∨ rest.head? = some CR) ∧
      h.protocol = (match h.addresses with | .unknown => UNKNOWN | .tcp4 _ => TCP4 | .tcp6 _ => TCP6) :=
  protocol_matches h (wellFormed_of_parseStr hp)

theorem parseBytes_reassemble (hp : parseBytes x = .ok h) :
    ∃ between, h.header = PROXY ++ [SP] ++ h.protocol ++ between ++ CRLF ∧
      h.addressesStr = (if between.head? = some SP then between.drop 1 else between) ∧
      (between = [] ∨ between.head? = some SP) :=
  reassemble h (wellFormed_of_parseBytes hp)

theorem parseStr_reassemble (hp : parseStr x = .ok h) :
    ∃ between, h.header = PROXY ++ [SP] ++ h.protocol ++ between ++ CRLF ∧
      h.addressesStr = (if between.head? = some SP then between.drop 1 else between) ∧
      (between = [] ∨ between.head? = some SP) :=
  reassemble h (wellFormed_of_parseStr hp)

theorem parseBytes_reassemble_sep (hp : parseBytes x = .ok h) :
    ∃ sep, (sep = [] ∨ sep = [SP]) ∧
      h.header = PROXY ++ [SP] ++ h.protocol ++ sep ++ h.addressesStr ++ CRLF :=
  reassemble_sep h (wellFormed_of_parseBytes hp)

theorem parseStr_reassemble_sep (hp : parseStr x = .ok h) :
    ∃ sep, (sep = [] ∨ sep = [SP]) ∧
      h.header = PROXY ++ [SP] ++ h.protocol ++ sep ++ h.addressesStr ++ CRLF :=
  reassemble_sep h (wellFormed_of_parseStr hp)

theorem parseBytes_sep_iff {x : B} {h : Header} (hp : parseBytes x = .ok h) :
    h.header = PROXY ++ [SP] ++ h.protocol ++ [SP] ++ h.addressesStr ++ CRLF ↔
      h.header.length ≠ 6 + h.protocol.length + 2 :=
  sep_iff h (wellFormed_of_parseBytes hp)

theorem parseStr_sep_iff {x : B} {h : Header} (hp : parseStr x = .ok h) :
    h.header = PROXY ++ [SP] ++ h.protocol ++ [SP] ++ h.addressesStr ++ CRLF ↔
      h.header.length ≠ 6 + h.protocol.length + 2 :=
  sep_iff h (wellFormed_of_parseStr hp)

/-- The accepted header text is a prefix of the input (the window). -/
theorem parseBytes_header_prefix (hp : parseBytes x = .ok h) : h.header <+: x := by
  obtain ⟨rest, hx, -⟩ := parseBytes_ok_line hp
  exact ⟨rest, hx.symm⟩

theorem parseStr_header_prefix (hp : parseStr x = .ok h) : h.header <+: x := by
  obtain ⟨rest, hx, -⟩ := parseStr_ok_line hp
  exact ⟨rest, hx.symm⟩

/-- **C15 (no panic, bytes).** `addresses_str` on a header returned by `TryFrom<&[u8]>`
returns normally; validity of the header text comes from `parseBytes`' own check. -/
theorem parse_accessors_no_panic (hp : parseBytes x = .ok h) : h.addressesStrP = .val h.addressesStr :=
  parseBytes_addressesStr_no_panic hp

/-- **C15 (no panic, str).** `addresses_str` on a header returned by `TryFrom<&str>` (the
input being a `&str`) returns normally. -/
theorem parseStr_accessors_no_panic (hx : Utf8.valid x = true) (hp : parseStr x = .ok h) :
    h.addressesStrP = .val h.addressesStr :=
  parseStr_addressesStr_no_panic hx hp

end EntryPoints

/-! ## Non-vacuity: concrete headers (all by kernel evaluation of the definitions) -/

section Examples

/-- `"PROXY UNKNOWN a b\r\n"` -/
def exUnknown : Header := ⟨PROXY ++ [SP] ++ UNKNOWN ++ [SP, 0x61, SP, 0x62] ++ CRLF, .unknown⟩
/-- `"PROXY UNKNOWN\r\n"` -/
def exBare : Header := ⟨PROXY ++ [SP] ++ UNKNOWN ++ CRLF, .unknown⟩
/-- `"PROXY UNKNOWN é\r\n"` (a two-byte character in the free text) -/
def exUtf8 : Header := ⟨PROXY ++ [SP] ++ UNKNOWN ++ [SP, 0xC3, 0xA9] ++ CRLF, .unknown⟩
/-- `"PROXY TCP4 1.2.3.4 5.6.7.8 80 443\r\n"` -/
def exTcp4Bytes : B :=
  PROXY ++ [SP] ++ TCP4 ++ [SP, 0x31, 0x2E, 0x32, 0x2E, 0x33, 0x2E, 0x34, SP, 0x35, 0x2E, 0x36, 0x2E, 0x37,
    0x2E, 0x38, SP, 0x38, 0x30, SP, 0x34, 0x34, 0x33] ++ CRLF
def exTcp4 : Header := ⟨exTcp4Bytes, .tcp4 ⟨⟨1, 2, 3, 4⟩, 80, ⟨5, 6, 7, 8⟩, 443⟩⟩
/-- `"PROXY TCP6 ::1 ::2 80 443\r\n"` -/
def exTcp6Bytes : B :=
  PROXY ++ [SP] ++ TCP6 ++ [SP, 0x3A, 0x3A, 0x31, SP, 0x3A, 0x3A, 0x32, SP, 0x38, 0x30, SP, 0x34, 0x34, 0x33] ++ CRLF

def exTcp6 : Header :=
  ⟨exTcp6Bytes, .tcp6 ⟨⟨[0, 0, 0, 0, 0, 0, 0, 0, 0, 0, 0, 0, 0, 0, 0, 1], rfl⟩, 80,
    ⟨[0, 0, 0, 0, 0, 0, 0, 0, 0, 0, 0, 0, 0, 0, 0, 2], rfl⟩, 443⟩⟩

/-- The hypothesis "well-formed header" is satisfiable. -/
example : Spec.V1.Line ip6Model exUnknown.header exUnknown.addresses :=
  Spec.V1.Line.unknown [SP, 0x61, SP, 0x62] (Or.inr rfl) (by decide)

set_option maxRecDepth 8000 in
example : parseBytes exUnknown.header = .ok exUnknown := by decide +kernel
set_option maxRecDepth 8000 in
example : parseStr exUnknown.header = .ok exUnknown := by decide +kernel
private theorem exTcp4_get : parseBytes (exTcp4Bytes ++ [0x47, 0x45, 0x54]) = .ok exTcp4 := by
  decide +kernel
set_option maxRecDepth 8000 in
example : parseBytes (exTcp4Bytes ++ [0x47, 0x45, 0x54]) = .ok exTcp4 := exTcp4_get
set_option maxRecDepth 8000 in
example : parseBytes exTcp6Bytes = .ok exTcp6 := by decide +kernel
set_option maxRecDepth 8000 in
example : exTcp6.protocol = TCP6 ∧
    exTcp6.addressesStr = [0x3A, 0x3A, 0x31, SP, 0x3A, 0x3A, 0x32, SP, 0x38, 0x30, SP, 0x34, 0x34, 0x33] ∧
    exTcp6.addressesStrP = .val exTcp6.addressesStr := by decide +kernel

set_option maxRecDepth 4000 in
example : exUnknown.protocol = UNKNOWN ∧ exUnknown.addressesStr = [0x61, SP, 0x62] ∧
    exUnknown.addressesStrP = .val [0x61, SP, 0x62] ∧ exUnknown.display = exUnknown.header := by decide +kernel
set_option maxRecDepth 4000 in
example : exBare.addressesStr = [] ∧ exBare.addressesStrP = .val [] := by decide +kernel
set_option maxRecDepth 4000 in
example : Utf8.valid exUtf8.header = true ∧ exUtf8.addressesStr = [0xC3, 0xA9] ∧
    exUtf8.addressesStrP = .val [0xC3, 0xA9] := by decide +kernel
set_option maxRecDepth 4000 in
example : exTcp4.protocol = TCP4 ∧
    exTcp4.addressesStr = [0x31, 0x2E, 0x32, 0x2E, 0x33, 0x2E, 0x34, SP, 0x35, 0x2E, 0x36, 0x2E, 0x37,
      0x2E, 0x38, SP, 0x38, 0x30, SP, 0x34, 0x34, 0x33] ∧
    exTcp4.addressesStrP = .val exTcp4.addressesStr ∧
    exTcp4.header = PROXY ++ [SP] ++ exTcp4.protocol ++ [SP] ++ exTcp4.addressesStr ++ CRLF := by decide +kernel

/-- The theorems instantiate on a concrete accepted input (header followed by payload). -/
example : exTcp4.addressesStrP = .val exTcp4.addressesStr ∧
    exTcp4.header = PROXY ++ [SP] ++ exTcp4.protocol ++ [SP] ++ exTcp4.addressesStr ++ CRLF :=
  ⟨parse_accessors_no_panic exTcp4_get, reassemble_tcp _ (wellFormed_of_parseBytes exTcp4_get) (by decide +kernel)⟩

/-- The panic model is not trivially `.val`: on headers that are *not* well-formed the
accessor panics — a text shorter than CR LF (the `usize` subtraction), and a text whose
byte 13 is inside a two-byte character while the addresses say `UNKNOWN` (the slice
start is not a char boundary). -/
example : (⟨[CR], .unknown⟩ : Header).addressesStrP = .panic := by decide +kernel
set_option maxRecDepth 4000 in
example : (⟨PROXY ++ [SP] ++ [0x55, 0x4E, 0x4B, 0x4E, 0x4F, 0x57, 0xC3, 0xA9, SP, 0x61] ++ CRLF, .unknown⟩ :
    Header).addressesStrP = .panic := by decide +kernel

end Examples

section SepExamples

/-- `"PROXY UNKNOWN \r\n"` -/
def exBareSp : Header := ⟨PROXY ++ [SP] ++ UNKNOWN ++ [SP] ++ CRLF, .unknown⟩

example : Spec.V1.Line ip6Model exBare.header exBare.addresses :=
  Spec.V1.Line.unknown [] (Or.inl rfl) (by decide)
example : Spec.V1.Line ip6Model exBareSp.header exBareSp.addresses :=
  Spec.V1.Line.unknown [SP] (Or.inr rfl) (by decide)

/-- Both are accepted, both have protocol `UNKNOWN` and an empty address text … -/
example : parseBytes exBare.header = .ok exBare ∧ parseBytes exBareSp.header = .ok exBareSp ∧
    exBare.protocol = exBareSp.protocol ∧ exBare.addressesStr = [] ∧ exBareSp.addressesStr = [] := by
  decide +kernel

/-- … and `sep_iff` tells them apart: 15 bytes = 6 + 7 + 2, against 16. -/
example : exBare.header ≠ PROXY ++ [SP] ++ exBare.protocol ++ [SP] ++ exBare.addressesStr ++ CRLF :=
  fun e => (sep_iff exBare (Spec.V1.Line.unknown [] (Or.inl rfl) (by decide))).mp e (by decide +kernel)
example : exBareSp.header = PROXY ++ [SP] ++ exBareSp.protocol ++ [SP] ++ exBareSp.addressesStr ++ CRLF :=
  (sep_iff exBareSp (Spec.V1.Line.unknown [SP] (Or.inr rfl) (by decide))).mpr (by decide +kernel)

end SepExamples

end C15
