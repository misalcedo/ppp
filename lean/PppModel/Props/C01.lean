import PppModel.Lemmas.V1Entry
import PppModel.Lemmas.V1NoPanic
import PppModel.Lemmas.Ipv6Grammar

/-!
# C01 — the v1 parser accepts exactly the well-formed lines and decodes them faithfully

`Spec.V1.Line` (PppModel/Spec/V1.lean) is the grammar of the protocol text
(proxy-protocol.txt section 2.1): `PROXY UNKNOWN[ …]\r\n`, `PROXY TCP4 a b p q\r\n`,
`PROXY TCP6 a b p q\r\n`, single spaces, plain decimal ports, dotted-quad IPv4 without
leading zeros.  The IPv6 text form is the parameter `ip6` of `Line`.

The theorems are stated one per entry point (`bytes_accept_iff`, `str_accept_iff`,
`fromStrHeader_accept_iff`, `fromStrAddresses_accept_iff`, and the panic-aware
`bytesP_accept_iff`, `strP_accept_iff`: the real entry points return normally, and return `Ok`
exactly on those inputs) with `ip6 := Spec.V1.Ipv6Text`, the RFC 4291 grammar.  They say:

* the input is accepted **iff** it begins with a well-formed line of at most 107 bytes
  (valid UTF-8 for the byte entry point), whatever follows that line;
* the header reported is exactly that line, and the addresses reported are exactly the
  ones the line denotes (`Line hdr addr` relates text and value; `ipv6Text_functional`: one
  text denotes one address);
* the line is the input through the LF after its *first* CR, has at least 15 bytes and
  starts with `PROXY ` (`accepted_header_facts`);
* the text of a TCP4 line is the canonical `Display` text of the decoded value
  (`decoded_fields`).

The lemmas under `Lemmas/` work with `ip6 := V1.ip6Model` = "the std parser model
(`StdNet.parseIpv6`) accepts the text and the text contains no SP/CR"; `line_iff_text`
(from `StdNet.parseIpv6_iff_text`) says the two instances of `Line` are the same, and
`bytes_accept_iff_partial`, `str_accept_iff_partial` are the two theorems stated with `ip6Model`.
-/

namespace C01
open V1

/-! ## The two instances of the grammar: RFC 4291 text forms for the IPv6 addresses

`StdNet.parseIpv6_iff_text` (Lemmas/Ipv6Grammar.lean) shows that the model of
`Ipv6Addr::from_str` accepts exactly `Spec.V1.Ipv6Text`, the RFC 4291 section 2.2
grammar, and that every accepted text is free of SP / CR. Hence `V1.ip6Model` and the
grammar give the same lines. -/

theorem ip6Model_iff_text (s : B) (a : Ip6) : V1.ip6Model s a ↔ Spec.V1.Ipv6Text s a :=
  ⟨fun h => (StdNet.parseIpv6_iff_text s a).mp h.1,
    fun h => ⟨(StdNet.parseIpv6_iff_text s a).mpr h, ipv6Text_sepFree h⟩⟩

theorem line_mono {p q : B → Ip6 → Prop} (hpq : ∀ s a, p s a → q s a) {w : B} {addr : V1.Addresses}
    (hl : Spec.V1.Line p w addr) : Spec.V1.Line q w addr := by
  cases hl with
  | unknown tail h1 h2 => exact .unknown tail h1 h2
  | tcp4 sa da sp dp a b p' q' h1 h2 h3 h4 => exact .tcp4 sa da sp dp a b p' q' h1 h2 h3 h4
  | tcp6 sa da sp dp a b p' q' h1 h2 h3 h4 => exact .tcp6 sa da sp dp a b p' q' (hpq _ _ h1) (hpq _ _ h2) h3 h4

theorem line_iff_text (w : B) (addr : V1.Addresses) :
    Spec.V1.Line V1.ip6Model w addr ↔ Spec.V1.Line Spec.V1.Ipv6Text w addr :=
  ⟨line_mono (fun s a => (ip6Model_iff_text s a).mp), line_mono (fun s a => (ip6Model_iff_text s a).mpr)⟩

/-! ## `TryFrom<&[u8]>` -/

/-- **C01 (bytes), `ip6Model` form.** The byte entry point accepts `x` with result `h` iff `x`
begins with `h.header`, which is valid UTF-8, at most 107 bytes long and a well-formed line
denoting `h.addresses`. -/
theorem bytes_accept_iff_partial (x : B) (h : V1.Header) :
    V1.parseBytes x = .ok h ↔
      ∃ rest, x = h.header ++ rest ∧ h.header.length ≤ 107 ∧ Utf8.valid h.header = true ∧
        Spec.V1.Line V1.ip6Model h.header h.addresses := by
  refine ⟨parseBytes_ok_line, ?_⟩
  rintro ⟨rest, rfl, hlen, hv, hl⟩
  exact parseBytes_of_line hl hlen hv

/-- **C01 (bytes).** `TryFrom<&[u8]>` succeeds with result `h` if and only if the
input starts with a line of at most 107 bytes that is valid UTF-8 and is a
well-formed PROXY v1 line (`Spec.V1.Line` with dotted-quad IPv4, RFC 4291 IPv6
text and plain decimal ports), and then `h` reports exactly that line and
exactly the addresses it denotes. -/
theorem bytes_accept_iff (x : B) (h : V1.Header) :
    V1.parseBytes x = .ok h ↔ ∃ rest, x = h.header ++ rest ∧ h.header.length ≤ 107 ∧
      Utf8.valid h.header = true ∧ Spec.V1.Line Spec.V1.Ipv6Text h.header h.addresses := by
  rw [bytes_accept_iff_partial]
  simp only [line_iff_text]

/-! ## `TryFrom<&str>` and the two `FromStr` -/

/-- **C01 (text), `ip6Model` form.** For an input that is a `&str`, the text entry point accepts
`x` with result `h` iff `x` begins with `h.header`, a well-formed line of at most 107 bytes
denoting `h.addresses`. -/
theorem str_accept_iff_partial (x : B) (hx : Utf8.valid x = true) (h : V1.Header) :
    V1.parseStr x = .ok h ↔
      ∃ rest, x = h.header ++ rest ∧ h.header.length ≤ 107 ∧
        Spec.V1.Line V1.ip6Model h.header h.addresses := by
  refine ⟨parseStr_ok_line, ?_⟩
  rintro ⟨rest, rfl, hlen, hl⟩
  exact parseStr_of_line hl hlen (boundary_after_line hl hx)

/-- **C01 (text).** The statement of `bytes_accept_iff` for `TryFrom<&str>` (and, by
`fromStrHeader_eq`, for `FromStr for Header`) on every valid UTF-8 string. -/
theorem str_accept_iff (x : B) (hx : Utf8.valid x = true) (h : V1.Header) :
    V1.parseStr x = .ok h ↔ ∃ rest, x = h.header ++ rest ∧ h.header.length ≤ 107 ∧
      Spec.V1.Line Spec.V1.Ipv6Text h.header h.addresses := by
  rw [str_accept_iff_partial x hx]
  simp only [line_iff_text]

/-- **C01 (`FromStr for Header`).** `"…".parse::<Header>()` on a valid UTF-8 string succeeds
with result `h` if and only if the string starts with a well-formed PROXY v1 line (RFC 4291
text for the IPv6 addresses) of at most 107 bytes; `h` reports exactly that line and the
addresses it denotes. -/
theorem fromStrHeader_accept_iff (x : B) (hx : Utf8.valid x = true) (h : V1.Header) :
    V1.fromStrHeader x = .ok h ↔ ∃ rest, x = h.header ++ rest ∧ h.header.length ≤ 107 ∧
      Spec.V1.Line Spec.V1.Ipv6Text h.header h.addresses := by
  rw [V1.fromStrHeader_eq]
  exact str_accept_iff x hx h

/-- **C01 (`FromStr for Addresses`).** `"…".parse::<Addresses>()` on a valid UTF-8 string
succeeds with result `a` if and only if the string starts with a well-formed PROXY v1 line
(RFC 4291 text for the IPv6 addresses) of at most 107 bytes that denotes `a`. -/
theorem fromStrAddresses_accept_iff (x : B) (hx : Utf8.valid x = true) (a : V1.Addresses) :
    V1.fromStrAddresses x = .ok a ↔
      ∃ hdr rest, x = hdr ++ rest ∧ hdr.length ≤ 107 ∧ Spec.V1.Line Spec.V1.Ipv6Text hdr a := by
  rw [V1.fromStrAddresses_ok_iff]
  constructor
  · rintro ⟨h, hp, rfl⟩
    exact ⟨h.header, (str_accept_iff x hx h).mp hp⟩
  · rintro ⟨hdr, hr⟩
    exact ⟨⟨hdr, a⟩, (str_accept_iff x hx ⟨hdr, a⟩).mpr hr, rfl⟩

/-- **C01 (decoding is a function of the text).** The RFC 4291 grammar is functional: one
text denotes at most one address, so "the addresses the line denotes" in the theorems
above is unambiguous for TCP6 as well. -/
theorem ipv6Text_functional {s : B} {a b : Ip6}
    (ha : Spec.V1.Ipv6Text s a) (hb : Spec.V1.Ipv6Text s b) : a = b := by
  have h1 := (StdNet.parseIpv6_iff_text s a).mpr ha
  have h2 := (StdNet.parseIpv6_iff_text s b).mpr hb
  rw [h1] at h2
  exact Option.some.inj h2

/-! ## The panic-aware entry points -/

/-- **C01 (panic-aware, bytes).** The link to the panic-aware model of `TryFrom<&[u8]>`:
it never panics, and returns `Ok(h)` exactly on the inputs that start with a well-formed
line of at most 107 bytes of valid UTF-8, reporting that line and its addresses. -/
theorem bytesP_accept_iff (x : B) (h : V1.Header) :
    V1.parseBytesP x = .val (.ok h) ↔ ∃ rest, x = h.header ++ rest ∧ h.header.length ≤ 107 ∧
      Utf8.valid h.header = true ∧ Spec.V1.Line Spec.V1.Ipv6Text h.header h.addresses := by
  rw [V1.parseBytes_no_panic, Outcome.val.injEq, bytes_accept_iff]

/-- **C01 (panic-aware, text).** The same for the panic-aware model of `TryFrom<&str>` on
every valid UTF-8 string. -/
theorem strP_accept_iff (x : B) (hx : Utf8.valid x = true) (h : V1.Header) :
    V1.parseStrP x = .val (.ok h) ↔ ∃ rest, x = h.header ++ rest ∧ h.header.length ≤ 107 ∧
      Spec.V1.Line Spec.V1.Ipv6Text h.header h.addresses := by
  rw [V1.parseStr_no_panic x hx, Outcome.val.injEq, str_accept_iff x hx]

/-- Every input is either rejected or accepted by the real (panic-aware) byte entry point
— it never panics — and acceptance is decided by the grammar alone. -/
theorem bytesP_val_or_error (x : B) :
    (∃ h, V1.parseBytesP x = .val (.ok h)) ∨ (∃ e, V1.parseBytesP x = .val (.error e)) := by
  rw [V1.parseBytes_no_panic]
  cases V1.parseBytes x with
  | ok h => exact .inl ⟨h, rfl⟩
  | error e => exact .inr ⟨e, rfl⟩

/-! ## What an accepted header looks like -/

/-- The window handed to `parse_header` has nothing after the byte following its first CR. -/
theorem window_is_window (x : B) (n : Nat) (h : V1.windowLength x = some n) : V1.IsWindow (x.take n) :=
  V1.window_is_window h

/-- The header reported is exactly the line through its CR LF, ended by the *first* CR of
the input; every accepted input starts with `PROXY ` and has at least 15 bytes. -/
theorem accepted_header_facts {x : B} {h : V1.Header} (hp : V1.parseBytes x = .ok h) :
    h.header <+: x ∧ V1.CRLF.isSuffixOf h.header = true ∧
      V1.firstCR x = some (h.header.length - 2) ∧ 15 ≤ h.header.length ∧
      h.header.take 6 = V1.PROXY ++ [V1.SP] := by
  obtain ⟨rest, rfl, -, -, hl⟩ := parseBytes_ok_line hp
  exact line_facts hl

/-- The same for the text entry point (validity of the input is not needed). -/
theorem accepted_header_facts_str {x : B} {h : V1.Header} (hp : V1.parseStr x = .ok h) :
    h.header <+: x ∧ V1.CRLF.isSuffixOf h.header = true ∧
      V1.firstCR x = some (h.header.length - 2) ∧ 15 ≤ h.header.length ∧
      h.header.take 6 = V1.PROXY ++ [V1.SP] := by
  obtain ⟨rest, rfl, -, hl⟩ := parseStr_ok_line hp
  exact line_facts hl

/-- Every accepted input starts with `PROXY `. -/
theorem accepted_starts_with_PROXY {x : B} {h : V1.Header} (hp : V1.parseBytes x = .ok h) :
    x.take 6 = V1.PROXY ++ [V1.SP] :=
  V1.parseBytes_ok_take6 hp

/-! ## Faithful decoding -/

/-- What the decoded value says about the text, by protocol:
* TCP4: the line is the canonical text of the value — `PROXY TCP4`, the two addresses in
  dotted-quad `Display` form, the two ports in decimal `Display` form, single spaces, CR LF
  (`V1.Addresses.format`);
* TCP6: the line is `PROXY TCP6 sa da sp dp\r\n` with the ports in decimal `Display` form
  and `sa`, `da` texts without SP/CR that the std parser model maps to the two addresses;
* UNKNOWN: the line is `PROXY UNKNOWN`, then nothing or a space and CR-free text, then CR LF. -/
theorem decoded_fields {x : B} {h : V1.Header} (hp : V1.parseBytes x = .ok h) :
    match h.addresses with
    | .tcp4 a => h.header = V1.Addresses.format (.tcp4 a)
    | .tcp6 a => ∃ sa da, StdNet.parseIpv6 sa = some a.srcAddr ∧ StdNet.parseIpv6 da = some a.dstAddr ∧
        V1.sepFree sa ∧ V1.sepFree da ∧
        h.header = V1.PROXY ++ [V1.SP] ++ V1.TCP6 ++ [V1.SP] ++ sa ++ [V1.SP] ++ da ++ [V1.SP] ++
          StdInt.dec a.srcPort.toNat ++ [V1.SP] ++ StdInt.dec a.dstPort.toNat ++ V1.CRLF
    | .unknown => ∃ tail, (tail = [] ∨ tail.head? = some V1.SP) ∧ V1.crFree tail ∧
        h.header = V1.PROXY ++ [V1.SP] ++ V1.UNKNOWN ++ tail ++ V1.CRLF := by
  obtain ⟨rest, -, -, -, hl⟩ := parseBytes_ok_line hp
  obtain ⟨hdr, addr⟩ := h
  dsimp only at hl ⊢
  cases hl with
  | unknown tail h1 h2 => exact ⟨tail, h1, h2, rfl⟩
  | tcp4 sa da sp dp a b p q hsa hda hsp hdp =>
    dsimp only
    rw [(StdNet.ipv4Text_iff_display _ _).mp hsa, (StdNet.ipv4Text_iff_display _ _).mp hda,
      (StdNet.portText_iff_dec _ _).mp hsp, (StdNet.portText_iff_dec _ _).mp hdp]
    rfl
  | tcp6 sa da sp dp a b p q hsa hda hsp hdp =>
    dsimp only
    rw [(StdNet.portText_iff_dec _ _).mp hsp, (StdNet.portText_iff_dec _ _).mp hdp]
    exact ⟨sa, da, hsa.1, hda.1, hsa.2, hda.2, rfl⟩

/-! ## Non-vacuity -/

/-- `PROXY UNKNOWN\r\n` -/
private def unk : B := [0x50,0x52,0x4F,0x58,0x59,0x20,0x55,0x4E,0x4B,0x4E,0x4F,0x57,0x4E,0x0D,0x0A]

example : Spec.V1.Line V1.ip6Model unk .unknown := Spec.V1.Line.unknown [] (.inl rfl) (by simp)

/-- `PROXY UNKNOWN\r\n` followed by payload is accepted by every entry point, with the
line as header. -/
example : V1.parseBytes (unk ++ [0x47, 0x45, 0x54]) = .ok ⟨unk, .unknown⟩ := by decide +kernel
example : V1.parseStr (unk ++ [0x47, 0x45, 0x54]) = .ok ⟨unk, .unknown⟩ := by decide +kernel
example : V1.parseBytes (unk ++ [0x47, 0x45, 0x54]) = .ok ⟨unk, .unknown⟩ :=
  (bytes_accept_iff_partial _ ⟨unk, .unknown⟩).mpr
    ⟨_, rfl, by decide, by decide +kernel, Spec.V1.Line.unknown [] (.inl rfl) (by simp)⟩

/-- A digit string is `Decimal` for its value. -/
private theorem dec1 : Spec.V1.Decimal [0x31] 1 := (StdNet.decimal_iff_dec _ _).mpr (by decide +kernel)
private theorem dec2 : Spec.V1.Decimal [0x32] 2 := (StdNet.decimal_iff_dec _ _).mpr (by decide +kernel)
private theorem dec80 : Spec.V1.Decimal [0x38, 0x30] 80 :=
  (StdNet.decimal_iff_dec _ _).mpr (by decide +kernel)
private theorem dec443 : Spec.V1.Decimal [0x34, 0x34, 0x33] 443 :=
  (StdNet.decimal_iff_dec _ _).mpr (by decide +kernel)

/-- `1.1.1.1` and `2.2.2.2` -/
private def ip1 : B := [0x31,0x2E,0x31,0x2E,0x31,0x2E,0x31]
private def ip2 : B := [0x32,0x2E,0x32,0x2E,0x32,0x2E,0x32]

/-- `PROXY TCP4 1.1.1.1 2.2.2.2 80 443\r\n`: a well-formed line with distinct source and
destination, denoting exactly those four values. -/
private theorem tcp4_line :
    Spec.V1.Line V1.ip6Model
      (V1.PROXY ++ [V1.SP] ++ V1.TCP4 ++ [V1.SP] ++ ip1 ++ [V1.SP] ++ ip2 ++ [V1.SP] ++ [0x38, 0x30] ++
        [V1.SP] ++ [0x34, 0x34, 0x33] ++ [V1.CR, V1.LF])
      (.tcp4 { srcAddr := ⟨1, 1, 1, 1⟩, srcPort := 80, dstAddr := ⟨2, 2, 2, 2⟩, dstPort := 443 }) :=
  Spec.V1.Line.tcp4 ip1 ip2 [0x38, 0x30] [0x34, 0x34, 0x33] ⟨1, 1, 1, 1⟩ ⟨2, 2, 2, 2⟩ 80 443
    ⟨[0x31], [0x31], [0x31], [0x31], dec1, dec1, dec1, dec1, rfl⟩
    ⟨[0x32], [0x32], [0x32], [0x32], dec2, dec2, dec2, dec2, rfl⟩ dec80 dec443

/-- … so the parser accepts it (followed by anything) and reports those values. -/
example (rest : B) :
    V1.parseBytes ((V1.PROXY ++ [V1.SP] ++ V1.TCP4 ++ [V1.SP] ++ ip1 ++ [V1.SP] ++ ip2 ++ [V1.SP] ++
        [0x38, 0x30] ++ [V1.SP] ++ [0x34, 0x34, 0x33] ++ [V1.CR, V1.LF]) ++ rest) =
      .ok ⟨V1.PROXY ++ [V1.SP] ++ V1.TCP4 ++ [V1.SP] ++ ip1 ++ [V1.SP] ++ ip2 ++ [V1.SP] ++
        [0x38, 0x30] ++ [V1.SP] ++ [0x34, 0x34, 0x33] ++ [V1.CR, V1.LF],
        .tcp4 { srcAddr := ⟨1, 1, 1, 1⟩, srcPort := 80, dstAddr := ⟨2, 2, 2, 2⟩, dstPort := 443 }⟩ :=
  (bytes_accept_iff_partial _ _).mpr ⟨rest, rfl, by decide +kernel, by decide +kernel, tcp4_line⟩

/-- A line that is not well-formed (two spaces) is rejected. -/
example : V1.parseBytes [0x50,0x52,0x4F,0x58,0x59,0x20,0x20,0x55,0x4E,0x4B,0x4E,0x4F,0x57,0x4E,0x0D,0x0A] =
    .error (.parse .invalidProtocol) := by decide +kernel

/-- `PROXY TCP6 ::1 ::2 80 443\r\n` -/
private def tcp6line : B :=
  [0x50,0x52,0x4F,0x58,0x59,0x20,0x54,0x43,0x50,0x36,0x20,0x3A,0x3A,0x31,0x20,0x3A,0x3A,0x32,0x20,
   0x38,0x30,0x20,0x34,0x34,0x33,0x0D,0x0A]
private def one6 : Ip6 := ⟨[0, 0, 0, 0, 0, 0, 0, 0, 0, 0, 0, 0, 0, 0, 0, 1], rfl⟩
private def two6 : Ip6 := ⟨[0, 0, 0, 0, 0, 0, 0, 0, 0, 0, 0, 0, 0, 0, 0, 2], rfl⟩
private def tcp6hdr : V1.Header :=
  ⟨tcp6line, .tcp6 { srcAddr := one6, srcPort := 80, dstAddr := two6, dstPort := 443 }⟩

/-- `::1` is an RFC 4291 text of the address `0…01` (hypothesis of `ipv6Text_functional`). -/
example : Spec.V1.Ipv6Text [0x3A, 0x3A, 0x31] one6 :=
  (StdNet.parseIpv6_iff_text _ _).mp (by decide +kernel)

/-- … and, by functionality, of no other address. -/
example : ¬ Spec.V1.Ipv6Text [0x3A, 0x3A, 0x31] two6 := fun h =>
  absurd (ipv6Text_functional h ((StdNet.parseIpv6_iff_text _ one6).mp (by decide +kernel))) (by decide +kernel)

private theorem tcp6_get : Utf8.valid (tcp6line ++ [0x47, 0x45, 0x54]) = true ∧
    V1.fromStrHeader (tcp6line ++ [0x47, 0x45, 0x54]) = .ok tcp6hdr ∧
    V1.fromStrAddresses (tcp6line ++ [0x47, 0x45, 0x54]) = .ok tcp6hdr.addresses := by decide +kernel

set_option maxRecDepth 8000 in
/-- The TCP6 line followed by `GET` is valid UTF-8 and accepted by both `FromStr` impls;
the iff then yields a grammar derivation with RFC 4291 address texts. -/
example : Utf8.valid (tcp6line ++ [0x47, 0x45, 0x54]) = true ∧
    V1.fromStrHeader (tcp6line ++ [0x47, 0x45, 0x54]) = .ok tcp6hdr ∧
    V1.fromStrAddresses (tcp6line ++ [0x47, 0x45, 0x54]) = .ok tcp6hdr.addresses := tcp6_get

set_option maxRecDepth 8000 in
example : ∃ rest, tcp6line ++ [0x47, 0x45, 0x54] = tcp6hdr.header ++ rest ∧ tcp6hdr.header.length ≤ 107 ∧
    Spec.V1.Line Spec.V1.Ipv6Text tcp6hdr.header tcp6hdr.addresses :=
  (fromStrHeader_accept_iff _ tcp6_get.1 tcp6hdr).mp tcp6_get.2.1

set_option maxRecDepth 8000 in
example : V1.parseBytesP (tcp6line ++ [0x47, 0x45, 0x54]) = .val (.ok tcp6hdr) := by
  rw [V1.parseBytes_no_panic]; exact congrArg _ (by decide +kernel)

/-- The panic-aware text entry point accepts `PROXY UNKNOWN\r\nGET`, via the grammar. -/
example : V1.parseStrP (unk ++ [0x47, 0x45, 0x54]) = .val (.ok ⟨unk, .unknown⟩) :=
  (strP_accept_iff _ (by decide +kernel) ⟨unk, .unknown⟩).mpr
    ⟨_, rfl, by decide, Spec.V1.Line.unknown [] (.inl rfl) (by simp)⟩

end C01
