import PppModel.V1.Ctor

/-!
# C19 — constructors and socket-address conversions keep every endpoint in its role

The theorems are immediate from the model; what they are worth is decided by
the correspondence check, which feeds the real constructors tuples with
pairwise-distinct components so that any transposition in the Rust shows up as
a disagreement with these definitions.
-/

namespace C19

theorem ipv4_new (sa da : Ip4) (sp dp : UInt16) :
    (IPv4.new sa da sp dp).srcAddr = sa ∧ (IPv4.new sa da sp dp).dstAddr = da ∧
    (IPv4.new sa da sp dp).srcPort = sp ∧ (IPv4.new sa da sp dp).dstPort = dp := ⟨rfl, rfl, rfl, rfl⟩

theorem ipv6_new (sa da : Ip6) (sp dp : UInt16) :
    (IPv6.new sa da sp dp).srcAddr = sa ∧ (IPv6.new sa da sp dp).dstAddr = da ∧
    (IPv6.new sa da sp dp).srcPort = sp ∧ (IPv6.new sa da sp dp).dstPort = dp := ⟨rfl, rfl, rfl, rfl⟩

theorem new_tcp (sa da : Ip4) (sa6 da6 : Ip6) (sp dp : UInt16) :
    V1.Addresses.newTcp4 sa da sp dp = .tcp4 ⟨sa, sp, da, dp⟩ ∧
    V1.Addresses.newTcp6 sa6 da6 sp dp = .tcp6 ⟨sa6, sp, da6, dp⟩ := ⟨rfl, rfl⟩

theorem unix_new (s d : FixB 108) : (V2.Unix.new s d).source = s ∧ (V2.Unix.new s d).destination = d :=
  ⟨rfl, rfl⟩

/-- A pair of socket addresses of the same family converts to that family's value
with the same IPs and ports, each in its role; a mixed pair converts to the
unknown / unspecified value. -/
theorem from_socket_pairs (s d : Ip4) (s6 d6 : Ip6) (sp dp : UInt16) (f1 f2 c1 c2 : Nat) :
    V1.Addresses.fromSockets (.v4 s sp) (.v4 d dp) = .tcp4 ⟨s, sp, d, dp⟩ ∧
    V1.Addresses.fromSockets (.v6 s6 sp f1 c1) (.v6 d6 dp f2 c2) = .tcp6 ⟨s6, sp, d6, dp⟩ ∧
    V1.Addresses.fromSockets (.v4 s sp) (.v6 d6 dp f2 c2) = .unknown ∧
    V1.Addresses.fromSockets (.v6 s6 sp f1 c1) (.v4 d dp) = .unknown ∧
    V2.Addresses.fromSockets (.v4 s sp) (.v4 d dp) = .ipv4 ⟨s, sp, d, dp⟩ ∧
    V2.Addresses.fromSockets (.v6 s6 sp f1 c1) (.v6 d6 dp f2 c2) = .ipv6 ⟨s6, sp, d6, dp⟩ ∧
    V2.Addresses.fromSockets (.v4 s sp) (.v6 d6 dp f2 c2) = .unspec ∧
    V2.Addresses.fromSockets (.v6 s6 sp f1 c1) (.v4 d dp) = .unspec :=
  ⟨rfl, rfl, rfl, rfl, rfl, rfl, rfl, rfl⟩

/-- The endpoints described by a v1 / v2 address value. -/
def endpoints1 : V1.Addresses → Option (B × UInt16 × B × UInt16)
  | .unknown => none
  | .tcp4 a => some (a.srcAddr.octets, a.srcPort, a.dstAddr.octets, a.dstPort)
  | .tcp6 a => some (a.srcAddr.val, a.srcPort, a.dstAddr.val, a.dstPort)

def endpoints2 : V2.Addresses → Option (B × UInt16 × B × UInt16)
  | .ipv4 a => some (a.srcAddr.octets, a.srcPort, a.dstAddr.octets, a.dstPort)
  | .ipv6 a => some (a.srcAddr.val, a.srcPort, a.dstAddr.val, a.dstPort)
  | _ => none

/-- The v1 and v2 conversions of the same pair describe the same endpoints. -/
theorem v1_v2_agree (a b : SocketAddr) :
    endpoints1 (V1.Addresses.fromSockets a b) = endpoints2 (V2.Addresses.fromSockets a b) := by
  cases a <;> cases b <;> rfl

/-- The `From<IPv4/IPv6/Unix>` conversions wrap the value unchanged. -/
theorem from_values (a : IPv4) (a6 : IPv6) (u : V2.Unix) :
    V1.Addresses.fromIPv4 a = .tcp4 a ∧ V1.Addresses.fromIPv6 a6 = .tcp6 a6 ∧
    V2.Addresses.fromIPv4 a = .ipv4 a ∧ V2.Addresses.fromIPv6 a6 = .ipv6 a6 ∧
    V2.Addresses.fromUnix u = .unix u ∧ (V2.Addresses.fromIPv4 a).family = .ipv4 := ⟨rfl, rfl, rfl, rfl, rfl, rfl⟩

/-- Non-vacuity: distinct components stay in their roles. -/
example : (IPv4.new ⟨1, 2, 3, 4⟩ ⟨5, 6, 7, 8⟩ 80 443).dstPort = 443 ∧
    (IPv4.new ⟨1, 2, 3, 4⟩ ⟨5, 6, 7, 8⟩ 80 443).srcAddr = ⟨1, 2, 3, 4⟩ := by decide +kernel

end C19
