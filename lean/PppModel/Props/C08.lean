import PppModel.Lemmas.Utf8
import PppModel.Lemmas.Ipv6Roundtrip
import PppModel.Props.C01

/-!
# C08 — v1 formatting produces canonical lines that parse back to the same addresses

`V1.Addresses.format` is `impl Display for v1::Addresses`.  For **every** address value
(`UNKNOWN`, any IPv4 pair, any IPv6 pair, any ports; the Lean types `Ip4`, `Ip6`, `UInt16`
are exactly the value spaces):

* `format_is_line` — the formatted text is a well-formed line of the v1 grammar
  (`Spec.V1.Line`) denoting that value;
* `format_length` — it is at most 107 bytes long (in fact at most 104);
* `format_ascii`, `format_valid_utf8` — it is ASCII, hence text;
* `format_parses_back` — each of the four text entry points parses it back to the identical
  value, and the header text reported is the whole formatted line;
* `format_parses_back_with_trailer` — the same with arbitrary bytes after the line;
* `format_injective` — distinct address values never share a line;
* `display_is_header` — a parsed header formats back to exactly the text it was parsed
  from, which is a prefix of the input.
-/

namespace C08
open V1

/-! ## The component round trips -/

theorem dec_roundtrip (p : UInt16) : V1.parsePort (StdInt.dec p.toNat) = .ok p :=
  (V1.parsePort_iff _ p).mpr rfl

theorem ipv4_roundtrip (a : Ip4) : StdNet.parseIpv4 (StdNet.displayIpv4 a) = some a :=
  (StdNet.parseIpv4_iff _ a).mpr rfl

theorem ipv6_roundtrip (a : Ip6) : StdNet.parseIpv6 (StdNet.displayIpv6 a) = some a :=
  StdNet.parseIpv6_displayIpv6 a

/-- The text `Display` prints for an IPv6 address is an RFC 4291 text of that address. -/
theorem displayIpv6_is_text (a : Ip6) : Spec.V1.Ipv6Text (StdNet.displayIpv6 a) a :=
  StdNet.ipv6Text_displayIpv6 a

/-! ## The formatted text is a line of the grammar -/

/-- The text form of an IPv6 address is accepted by the address parser as that address and
contains no separator. -/
theorem ip6Model_display (a : Ip6) : ip6Model (StdNet.displayIpv6 a) a :=
  (C01.ip6Model_iff_text _ a).mpr (displayIpv6_is_text a)

theorem format_is_line (a : V1.Addresses) : Spec.V1.Line V1.ip6Model a.format a := by
  cases a with
  | unknown =>
    exact Spec.V1.Line.unknown [] (Or.inl rfl) (fun c hc => by cases hc)
  | tcp4 x =>
    cases x with
    | mk sa sp da dp =>
      exact Spec.V1.Line.tcp4 (StdNet.displayIpv4 sa) (StdNet.displayIpv4 da)
        (StdInt.dec sp.toNat) (StdInt.dec dp.toNat) sa da sp dp
        ((StdNet.ipv4Text_iff_display _ _).mpr rfl) ((StdNet.ipv4Text_iff_display _ _).mpr rfl)
        ((StdNet.portText_iff_dec _ _).mpr rfl) ((StdNet.portText_iff_dec _ _).mpr rfl)
  | tcp6 x =>
    cases x with
    | mk sa sp da dp =>
      exact Spec.V1.Line.tcp6 (StdNet.displayIpv6 sa) (StdNet.displayIpv6 da)
        (StdInt.dec sp.toNat) (StdInt.dec dp.toNat) sa da sp dp
        (ip6Model_display sa) (ip6Model_display da)
        ((StdNet.portText_iff_dec _ _).mpr rfl) ((StdNet.portText_iff_dec _ _).mpr rfl)

/-! ## Length -/

/-- 104 = `PROXY TCP6` with its two spaces (11) + two addresses of at most 39 + two ports of at most 5
+ two more spaces + CRLF. -/
theorem format_length_104 (a : V1.Addresses) : a.format.length ≤ 104 := by
  cases a with
  | unknown => decide
  | tcp4 x =>
    have h1 := (StdNet.displayIpv4_length x.srcAddr).2
    have h2 := (StdNet.displayIpv4_length x.dstAddr).2
    have h3 := StdInt.dec_length_u16 _ x.srcPort.toNat_lt
    have h4 := StdInt.dec_length_u16 _ x.dstPort.toNat_lt
    simp only [Addresses.format, PROXY, TCP4, CRLF, List.length_append, List.length_cons,
      List.length_nil]
    omega
  | tcp6 x =>
    have h1 := StdNet.displayIpv6_length x.srcAddr
    have h2 := StdNet.displayIpv6_length x.dstAddr
    have h3 := StdInt.dec_length_u16 _ x.srcPort.toNat_lt
    have h4 := StdInt.dec_length_u16 _ x.dstPort.toNat_lt
    simp only [Addresses.format, PROXY, TCP6, CRLF, List.length_append, List.length_cons,
      List.length_nil]
    omega

theorem format_length (a : V1.Addresses) : a.format.length ≤ 107 :=
  Nat.le_trans (format_length_104 a) (by decide)

/-! ## Character set -/

theorem ascii_of_addrBytes {s : B} (h : ∀ c ∈ s, StdNet.AddrByte c) : ∀ c ∈ s, c < 0x80 := fun c hc => by
  rw [UInt8.lt_iff_toNat_lt]
  exact Nat.lt_of_le_of_lt (StdNet.addrByte_toNat (h c hc)).2 (by decide)

theorem dec_ascii (n : Nat) : ∀ c ∈ StdInt.dec n, c < 0x80 :=
  ascii_of_addrBytes (StdNet.dec_bytes n)

theorem displayIpv4_ascii (a : Ip4) : ∀ c ∈ StdNet.displayIpv4 a, c < 0x80 :=
  ascii_of_addrBytes (StdNet.displayIpv4_bytes a)

theorem displayIpv6_ascii (a : Ip6) : ∀ c ∈ StdNet.displayIpv6 a, c < 0x80 := by
  obtain ⟨_, hp, -⟩ := StdNet.ipv6Text_displayIpv6 a
  exact ascii_of_addrBytes (StdNet.ipv6Pieces_bytes hp)

theorem format_ascii (a : V1.Addresses) : ∀ c ∈ a.format, c < 0x80 := by
  have app {s t : B} (hs : ∀ c ∈ s, c < 0x80) (ht : ∀ c ∈ t, c < 0x80) : ∀ c ∈ s ++ t, c < 0x80 :=
    List.forall_mem_append.mpr ⟨hs, ht⟩
  have sp : ∀ c ∈ [SP], c < 0x80 := by decide
  have crlf : ∀ c ∈ CRLF, c < 0x80 := by decide
  cases a with
  | unknown => decide
  | tcp4 x =>
    exact app (app (app (app (app (app (app (app (by decide : ∀ c ∈ PROXY ++ [SP] ++ TCP4 ++ [SP], c < 0x80)
      (displayIpv4_ascii _)) sp) (displayIpv4_ascii _)) sp) (dec_ascii _)) sp) (dec_ascii _)) crlf
  | tcp6 x =>
    exact app (app (app (app (app (app (app (app (by decide : ∀ c ∈ PROXY ++ [SP] ++ TCP6 ++ [SP], c < 0x80)
      (displayIpv6_ascii _)) sp) (displayIpv6_ascii _)) sp) (dec_ascii _)) sp) (dec_ascii _)) crlf

theorem format_valid_utf8 (a : V1.Addresses) : Utf8.valid a.format = true :=
  Utf8.ascii_valid _ (format_ascii a)

/-! ## Parsing the formatted text

By `V1.parseBytes_of_line` / `V1.parseStr_of_line` an input that starts with a well-formed line
of at most 107 bytes is accepted with that line as header: the byte entry point asks that the
line be text, the text entry point that it end on a character boundary of the input.  The
formatted line is ASCII, and valid text after it begins on a boundary. -/

/-- **C08 ("a well-formed v1 line").** The formatted text is a line of the v1 grammar with
the RFC 4291 text forms (`Spec.V1.Ipv6Text`) for the IPv6 addresses — the independent
specification, not the parser model — and it denotes exactly the formatted value. -/
theorem format_is_line_text (a : V1.Addresses) : Spec.V1.Line Spec.V1.Ipv6Text a.format a :=
  (C01.line_iff_text _ _).mp (format_is_line a)

/-- Whatever follows the formatted line (payload, another header, garbage), the byte entry
point returns the same header. -/
theorem format_parses_back_with_trailer (a : V1.Addresses) (t : B) :
    V1.parseBytes (a.format ++ t) = .ok ⟨a.format, a⟩ :=
  V1.parseBytes_of_line (format_is_line a) (format_length a) (format_valid_utf8 a)

/-- The same through `TryFrom<&str>`, whose argument is text: the trailer is valid UTF-8
(a `&str` cannot continue with a stray continuation byte). -/
theorem format_parses_back_with_trailer_str (a : V1.Addresses) (t : B) (ht : Utf8.valid t = true) :
    V1.parseStr (a.format ++ t) = .ok ⟨a.format, a⟩ :=
  V1.parseStr_of_line (format_is_line a) (format_length a) (Utf8.isCharBoundary_append_valid _ t ht)

/-- **C08 (trailer, `FromStr for Header`).** Whatever text follows the formatted line,
`str::parse::<Header>` returns the same header: the formatted line and the formatted value. -/
theorem format_fromStrHeader_with_trailer (a : V1.Addresses) (t : B) (ht : Utf8.valid t = true) :
    V1.fromStrHeader (a.format ++ t) = .ok ⟨a.format, a⟩ :=
  (V1.fromStrHeader_eq _).trans (format_parses_back_with_trailer_str a t ht)

/-- **C08 (trailer, `FromStr for Addresses`).** Whatever text follows the formatted line,
`str::parse::<Addresses>` returns the formatted value. -/
theorem format_fromStrAddresses_with_trailer (a : V1.Addresses) (t : B) (ht : Utf8.valid t = true) :
    V1.fromStrAddresses (a.format ++ t) = .ok a := by
  rw [V1.fromStrAddresses_eq, format_parses_back_with_trailer_str a t ht]; rfl

/-- **C08 (trailer, all four entry points).** -/
theorem format_parses_back_with_trailer_all (a : V1.Addresses) (t : B) (ht : Utf8.valid t = true) :
    V1.parseBytes (a.format ++ t) = .ok ⟨a.format, a⟩ ∧ V1.parseStr (a.format ++ t) = .ok ⟨a.format, a⟩ ∧
    V1.fromStrHeader (a.format ++ t) = .ok ⟨a.format, a⟩ ∧ V1.fromStrAddresses (a.format ++ t) = .ok a :=
  ⟨format_parses_back_with_trailer a t, format_parses_back_with_trailer_str a t ht,
    format_fromStrHeader_with_trailer a t ht, format_fromStrAddresses_with_trailer a t ht⟩

/-- **C08.** Every text entry point parses the formatted text back to the identical value,
and reports the whole formatted line as the header text. -/
theorem format_parses_back (a : V1.Addresses) :
    V1.parseBytes a.format = .ok ⟨a.format, a⟩ ∧ V1.parseStr a.format = .ok ⟨a.format, a⟩ ∧
    V1.fromStrHeader a.format = .ok ⟨a.format, a⟩ ∧ V1.fromStrAddresses a.format = .ok a := by
  have := format_parses_back_with_trailer_all a [] rfl
  rwa [List.append_nil] at this

theorem format_parses_back_tcp4 (x : IPv4) :
    V1.parseBytes (V1.Addresses.tcp4 x).format = .ok ⟨(V1.Addresses.tcp4 x).format, .tcp4 x⟩ :=
  (format_parses_back (.tcp4 x)).1

theorem format_parses_back_tcp6 (x : IPv6) :
    V1.parseBytes (V1.Addresses.tcp6 x).format = .ok ⟨(V1.Addresses.tcp6 x).format, .tcp6 x⟩ :=
  (format_parses_back (.tcp6 x)).1

theorem format_parses_back_unknown :
    V1.parseBytes V1.Addresses.unknown.format = .ok ⟨V1.Addresses.unknown.format, .unknown⟩ :=
  (format_parses_back .unknown).1

/-! ## Distinct values never share a line -/

theorem format_injective (a b : V1.Addresses) (h : a.format = b.format) : a = b := by
  have ha := (format_parses_back a).2.2.2
  have hb := (format_parses_back b).2.2.2
  rw [h, hb] at ha
  cases ha
  rfl

/-! ## A parsed header displays as the text it was parsed from -/

theorem display_is_header {x : B} {h : V1.Header} (hp : V1.parseBytes x = .ok h) :
    h.display = h.header ∧ h.header <+: x :=
  ⟨rfl, (C01.accepted_header_facts hp).1⟩

/-- The same through `TryFrom<&str>`. -/
theorem display_is_header_str {x : B} {h : V1.Header} (hp : V1.parseStr x = .ok h) :
    h.display = h.header ∧ h.header <+: x :=
  ⟨rfl, (C01.accepted_header_facts_str hp).1⟩

/-- Formatting the addresses of a parsed canonical line and displaying the parsed header
agree: for a formatted line the stored text is the formatted text. -/
theorem display_of_format (a : V1.Addresses) {h : V1.Header} (hp : V1.parseBytes a.format = .ok h) :
    h.display = a.format ∧ h.addresses = a := by
  rw [(format_parses_back a).1] at hp
  cases hp
  exact ⟨rfl, rfl⟩

/-! ## Non-vacuity -/

/-- A concrete TCP6 value with different source and destination. -/
example :=
  format_parses_back (.tcp6
    { srcAddr := FixB.ofList 16 [0x20, 0x01, 0x0d, 0xb8, 0, 0, 0, 0, 0, 0, 0, 0, 0, 0, 0, 1],
      srcPort := 443,
      dstAddr := FixB.ofList 16 [0, 0, 0, 0, 0, 0, 0, 0, 0, 0, 0xff, 0xff, 192, 0, 2, 7],
      dstPort := 65535 })

example : V1.parseBytes V1.Addresses.unknown.format
    = .ok ⟨[0x50, 0x52, 0x4F, 0x58, 0x59, 0x20, 0x55, 0x4E, 0x4B, 0x4E, 0x4F, 0x57, 0x4E, 0x0D, 0x0A],
      .unknown⟩ :=
  format_parses_back_unknown

/-- Non-vacuity: a trailer that is text with a multi-byte character (`€GET`), after a TCP6
line with different source and destination. -/
example : Utf8.valid [0xE2, 0x82, 0xAC, 0x47, 0x45, 0x54] = true := by decide +kernel
example :=
  format_parses_back_with_trailer_all (.tcp6
    { srcAddr := FixB.ofList 16 [0x20, 0x01, 0x0d, 0xb8, 0, 0, 0, 0, 0, 0, 0, 0, 0, 0, 0, 1],
      srcPort := 443,
      dstAddr := FixB.ofList 16 [0, 0, 0, 0, 0, 0, 0, 0, 0, 0, 0xff, 0xff, 192, 0, 2, 7],
      dstPort := 65535 }) [0xE2, 0x82, 0xAC, 0x47, 0x45, 0x54] (by decide +kernel)

/-- The trailer hypothesis matters for the text entry points: after a stray continuation
byte (not text) `TryFrom<&str>`'s model reports `InvalidSuffix` while the byte entry point
still accepts. -/
example : V1.parseStr (V1.Addresses.unknown.format ++ [0x82]) = .error .invalidSuffix ∧
    V1.parseBytes (V1.Addresses.unknown.format ++ [0x82]) =
      .ok ⟨V1.Addresses.unknown.format, .unknown⟩ := by decide +kernel

end C08
