import PppModel.Lemmas.V1Entry
import PppModel.Lemmas.V2Stream
import PppModel.Props.C06

/-!
# C04 — an accepted header never depends on or consumes the bytes that follow it

For each parser (`v2`, `v1` bytes, `v1` text and both `FromStr`, and the auto-detecting
`HeaderResult::parse`), if an input `x` is accepted with header `h` then

* `x ++ t` is accepted with the very same `h`, whatever `t` is (`*_trailing`, first part);
* `h.header` alone is accepted with the same `h` (second part), and `h.header` is a prefix
  of `x` — so the result is a function of the header bytes only, and the bytes after them
  are left to the caller;
* the number of bytes the caller must remove from its buffer is `h.header.length`, which is
  `16 + declared length` for v2 and `firstCR x + 2` (the line through its LF) for v1
  (`consumed_length`).
-/

namespace C04
open V1

/-! ## v2 -/

/-- **C04 (v2).** -/
theorem v2_trailing {x : B} {h : V2.Header} (hp : V2.parse x = .ok h) (t : B) :
    V2.parse (x ++ t) = .ok h ∧ V2.parse h.header = .ok h ∧ h.header <+: x ∧
      h.header.length = 16 + be16 (byteAt x 14) (byteAt x 15) := by
  obtain ⟨h1, h2, -, h4⟩ := V2.parse_header_self hp
  exact ⟨V2.parse_trailing hp t, h1, h2, h4⟩

/-! ## v1, byte entry point -/

/-- **C04 (v1 bytes).** -/
theorem v1_bytes_trailing {x : B} {h : V1.Header} (hp : V1.parseBytes x = .ok h) (t : B) :
    V1.parseBytes (x ++ t) = .ok h ∧ V1.parseBytes h.header = .ok h ∧ h.header <+: x ∧
      (∃ c, V1.firstCR x = some c ∧ h.header.length = c + 2) := by
  obtain ⟨rest, rfl, hlen, hv, hl⟩ := parseBytes_ok_line hp
  refine ⟨?_, ?_, List.prefix_append _ _, line_firstCR hl⟩
  · rw [List.append_assoc]; exact parseBytes_of_line hl hlen hv
  · simpa using parseBytes_of_line (rest := []) hl hlen hv

/-! ## v1, text entry point and both `FromStr` -/

/-- **C04 (v1 text), header followed by anything.** The only thing the text entry point looks at
beyond the header is whether the header ends on a character boundary of the whole string (always
the case when the whole string is a `&str`, see `v1_str_header_append_valid`). No hypothesis on
`x` itself. -/
theorem v1_str_header_append {x : B} {h : V1.Header} (hp : V1.parseStr x = .ok h) (t : B)
    (hb : Utf8.isCharBoundary (h.header ++ t) h.header.length = true) :
    V1.parseStr (h.header ++ t) = .ok h := by
  obtain ⟨-, -, hlen, hl⟩ := parseStr_ok_line hp
  exact parseStr_of_line hl hlen hb

/-- **C04 (v1 text), header followed by anything that makes a `&str`.** -/
theorem v1_str_header_append_valid {x : B} {h : V1.Header} (hp : V1.parseStr x = .ok h) (t : B)
    (hv : Utf8.valid (h.header ++ t) = true) : V1.parseStr (h.header ++ t) = .ok h := by
  obtain ⟨-, -, -, hl⟩ := parseStr_ok_line hp
  exact v1_str_header_append hp t (boundary_after_line hl hv)

/-- The reported header on its own. -/
theorem v1_str_header_self {x : B} {h : V1.Header} (hp : V1.parseStr x = .ok h) :
    V1.parseStr h.header = .ok h := by
  simpa using v1_str_header_append hp [] (by rw [List.append_nil]; exact Utf8.isCharBoundary_length _)

/-- **C04 (v1 text).** `x` and `x ++ t` are both `&str`. -/
theorem v1_str_trailing {x : B} {h : V1.Header} (hp : V1.parseStr x = .ok h) (t : B)
    (hx : Utf8.valid x = true) (hxt : Utf8.valid (x ++ t) = true) :
    V1.parseStr (x ++ t) = .ok h ∧ V1.parseStr h.header = .ok h ∧ h.header <+: x := by
  obtain ⟨rest, rfl, -⟩ := parseStr_ok_line hp
  refine ⟨?_, v1_str_header_self hp, List.prefix_append _ _⟩
  rw [List.append_assoc] at hxt ⊢
  exact v1_str_header_append_valid hp _ hxt

/-- **C04 (`FromStr for Header`).** -/
theorem fromStrHeader_trailing {x : B} {h : V1.Header} (hp : V1.fromStrHeader x = .ok h) (t : B)
    (hx : Utf8.valid x = true) (hxt : Utf8.valid (x ++ t) = true) :
    V1.fromStrHeader (x ++ t) = .ok h ∧ V1.fromStrHeader h.header = .ok h ∧ h.header <+: x := by
  simp only [V1.fromStrHeader_eq] at hp ⊢
  exact v1_str_trailing hp t hx hxt

/-- **C04 (`FromStr for Addresses`).** -/
theorem fromStrAddresses_trailing {x : B} {a : V1.Addresses} (hp : V1.fromStrAddresses x = .ok a)
    (t : B) (hx : Utf8.valid x = true) (hxt : Utf8.valid (x ++ t) = true) :
    V1.fromStrAddresses (x ++ t) = .ok a := by
  obtain ⟨h, hs, ha⟩ := V1.fromStrAddresses_ok_iff.mp hp
  exact V1.fromStrAddresses_ok_iff.mpr ⟨h, (v1_str_trailing hs t hx hxt).1, ha⟩

/-- `result_is_function_of_header` (below) for the text entry point (and hence `FromStr for Header`),
for continuations that make `&str`s. -/
theorem result_is_function_of_header_str {x : B} {h : V1.Header} (hp : V1.parseStr x = .ok h)
    (t₁ t₂ : B) (h₁ : Utf8.valid (h.header ++ t₁) = true) (h₂ : Utf8.valid (h.header ++ t₂) = true) :
    V1.parseStr (h.header ++ t₁) = V1.parseStr (h.header ++ t₂) ∧
    V1.parseStr (h.header ++ t₁) = .ok h ∧
    V1.fromStrHeader (h.header ++ t₁) = V1.fromStrHeader (h.header ++ t₂) ∧
    V1.fromStrAddresses (h.header ++ t₁) = V1.fromStrAddresses (h.header ++ t₂) := by
  have e₁ := v1_str_header_append_valid hp t₁ h₁
  have e₂ := v1_str_header_append_valid hp t₂ h₂
  exact ⟨by rw [e₁, e₂], e₁, by rw [V1.fromStrHeader_eq, V1.fromStrHeader_eq, e₁, e₂],
    by rw [V1.fromStrAddresses_eq, V1.fromStrAddresses_eq, e₁, e₂]⟩

/-! ## Version auto-detection -/

/-- **C04 (auto-detection), complete form**: `auto_trailing` together with "the header is a
prefix of the input" and the number of bytes to remove (cf. `consumed_length`). -/
theorem auto_trailing' {x : B} (t : B) :
    (∀ h, Auto.parse x = .v2 (.ok h) →
      Auto.parse (x ++ t) = .v2 (.ok h) ∧ Auto.parse h.header = .v2 (.ok h) ∧ h.header <+: x ∧
        h.header.length = 16 + be16 (byteAt x 14) (byteAt x 15)) ∧
    (∀ h, Auto.parse x = .v1 (.ok h) →
      Auto.parse (x ++ t) = .v1 (.ok h) ∧ Auto.parse h.header = .v1 (.ok h) ∧ h.header <+: x ∧
        (∃ c, V1.firstCR x = some c ∧ h.header.length = c + 2)) := by
  simp only [C06.tag_v2, C06.tag_v1]
  exact ⟨fun _ hp => v2_trailing hp t, fun _ hp => v1_bytes_trailing hp t⟩

/-- **C04 (auto-detection).** -/
theorem auto_trailing {x : B} (t : B) :
    (∀ h, Auto.parse x = .v2 (.ok h) → Auto.parse (x ++ t) = .v2 (.ok h) ∧ Auto.parse h.header = .v2 (.ok h)) ∧
    (∀ h, Auto.parse x = .v1 (.ok h) → Auto.parse (x ++ t) = .v1 (.ok h) ∧ Auto.parse h.header = .v1 (.ok h)) := by
  simp only [C06.tag_v2, C06.tag_v1]
  exact ⟨fun _ hp => ⟨V2.parse_trailing hp t, (V2.parse_header_self hp).1⟩,
    fun _ hp => ⟨(v1_bytes_trailing hp t).1, (v1_bytes_trailing hp t).2.1⟩⟩

/-! ## "The bytes after the header are never interpreted", literally -/

/-- **C04, "bytes after the header are never interpreted"** (clause 1+2 combined, literal
reading): for the three byte parsers the result on `header ++ t` does not depend on `t` (and is
the accepted header). -/
theorem result_is_function_of_header {x : B} (t₁ t₂ : B) :
    (∀ h, V2.parse x = .ok h →
      V2.parse (h.header ++ t₁) = V2.parse (h.header ++ t₂) ∧ V2.parse (h.header ++ t₁) = .ok h) ∧
    (∀ h, V1.parseBytes x = .ok h →
      V1.parseBytes (h.header ++ t₁) = V1.parseBytes (h.header ++ t₂) ∧
      V1.parseBytes (h.header ++ t₁) = .ok h) ∧
    (∀ h, Auto.parse x = .v2 (.ok h) →
      Auto.parse (h.header ++ t₁) = Auto.parse (h.header ++ t₂) ∧
      Auto.parse (h.header ++ t₁) = .v2 (.ok h)) ∧
    (∀ h, Auto.parse x = .v1 (.ok h) →
      Auto.parse (h.header ++ t₁) = Auto.parse (h.header ++ t₂) ∧
      Auto.parse (h.header ++ t₁) = .v1 (.ok h)) := by
  -- a parser that gives `r` on the header followed by anything
  have key : ∀ {R : Type} {P : B → R} {hd : B} {r : R}, (∀ t, P (hd ++ t) = r) →
      P (hd ++ t₁) = P (hd ++ t₂) ∧ P (hd ++ t₁) = r := fun k => ⟨(k t₁).trans (k t₂).symm, k t₁⟩
  exact ⟨fun h hp => key fun t => (v2_trailing (v2_trailing hp []).2.1 t).1,
    fun h hp => key fun t => (v1_bytes_trailing (v1_bytes_trailing hp []).2.1 t).1,
    fun h hp => key fun t => ((auto_trailing t).1 h ((auto_trailing (x := x) []).1 h hp).2).1,
    fun h hp => key fun t => ((auto_trailing t).2 h ((auto_trailing (x := x) []).2 h hp).2).1⟩

/-! ## How many bytes the caller must remove -/

/-- What holds of every line followed by anything holds of every input accepted as version 1, at
whichever entry point. -/
theorem v1_accepted {x : B} {Q : V1.Header → Prop}
    (hQ : ∀ h rest, x = h.header ++ rest → Spec.V1.Line ip6Model h.header h.addresses → Q h) :
    (∀ h, V1.parseBytes x = .ok h → Q h) ∧ (∀ h, V1.parseStr x = .ok h → Q h) ∧
      (∀ h, Auto.parse x = .v1 (.ok h) → Q h) := by
  have v1 : ∀ h, V1.parseBytes x = .ok h → Q h := fun h hp => by
    obtain ⟨rest, hx, -, -, hl⟩ := parseBytes_ok_line hp
    exact hQ h rest hx hl
  exact ⟨v1, fun h hp => by obtain ⟨rest, hx, -, hl⟩ := parseStr_ok_line hp; exact hQ h rest hx hl,
    fun h hp => v1 h ((C06.tag_v1 x h).mp hp)⟩

/-- The accepted header is a prefix of the input and its length — the number of bytes to
remove from the buffer before handing the rest to the application — is `16 + declared
length` for v2 and `first CR + 2` for v1; the auto-detecting parser reports whichever
applies to the parser that accepted. -/
theorem consumed_length {x : B} :
    (∀ h, V2.parse x = .ok h → h.header = x.take h.header.length ∧
        h.header.length = 16 + be16 (byteAt x 14) (byteAt x 15)) ∧
    (∀ h, V1.parseBytes x = .ok h → h.header = x.take h.header.length ∧
        ∃ c, V1.firstCR x = some c ∧ h.header.length = c + 2) ∧
    (∀ h, V1.parseStr x = .ok h → h.header = x.take h.header.length ∧
        ∃ c, V1.firstCR x = some c ∧ h.header.length = c + 2) ∧
    (∀ h, Auto.parse x = .v2 (.ok h) → h.header = x.take h.header.length ∧
        h.header.length = 16 + be16 (byteAt x 14) (byteAt x 15)) ∧
    (∀ h, Auto.parse x = .v1 (.ok h) → h.header = x.take h.header.length ∧
        ∃ c, V1.firstCR x = some c ∧ h.header.length = c + 2) := by
  have v2 : ∀ h, V2.parse x = .ok h → h.header = x.take h.header.length ∧
      h.header.length = 16 + be16 (byteAt x 14) (byteAt x 15) := by
    intro h hp
    obtain ⟨-, -, h3, h4⟩ := V2.parse_header_self hp
    exact ⟨by rw [h4]; exact h3, h4⟩
  suffices k : _ ∧ _ ∧ _ from ⟨v2, k.1, k.2.1, fun h hp => v2 h ((C06.tag_v2 x h).mp hp), k.2.2⟩
  refine v1_accepted fun h rest hx hl => ?_
  subst hx
  exact ⟨(List.take_left' rfl).symm, line_firstCR hl⟩

/-- **C04, "for v1 the line through its CRLF"**: the accepted header is the input up to and
including the byte after its first CR, that byte *is* LF, and these are the header's last two
bytes — for the byte entry point, the text entry point and the auto-detecting parser. -/
theorem v1_line_through_lf {x : B} :
    (∀ h, V1.parseBytes x = .ok h → ∃ c, V1.firstCR x = some c ∧ c + 1 < x.length ∧
        byteAt x c = CR ∧ byteAt x (c + 1) = LF ∧ h.header = x.take (c + 2) ∧
        h.header = x.take c ++ [CR, LF]) ∧
    (∀ h, V1.parseStr x = .ok h → ∃ c, V1.firstCR x = some c ∧ c + 1 < x.length ∧
        byteAt x c = CR ∧ byteAt x (c + 1) = LF ∧ h.header = x.take (c + 2) ∧
        h.header = x.take c ++ [CR, LF]) ∧
    (∀ h, Auto.parse x = .v1 (.ok h) → ∃ c, V1.firstCR x = some c ∧ c + 1 < x.length ∧
        byteAt x c = CR ∧ byteAt x (c + 1) = LF ∧ h.header = x.take (c + 2) ∧
        h.header = x.take c ++ [CR, LF]) :=
  v1_accepted fun h rest hx hl => by
    subst hx
    obtain ⟨body, hb, e⟩ := line_shape hl
    rw [e]
    have hx : body ++ [CR, LF] ++ rest = body ++ ([CR, LF] ++ rest) := List.append_assoc ..
    refine ⟨body.length, firstCR_append_of_some rest (firstCR_append_cr [LF] hb), by simp, ?_, ?_, ?_, ?_⟩
    · rw [hx, byteAt_append_right (Nat.le_refl _), Nat.sub_self]; rfl
    · rw [hx, byteAt_append_right (Nat.le_add_right ..), Nat.add_sub_cancel_left]; rfl
    · exact (List.take_left' (by simp)).symm
    · rw [hx, List.take_left' rfl]

/-! ## Non-vacuity -/

/-- `PROXY UNKNOWN\r\n` -/
private def unk : B := [0x50,0x52,0x4F,0x58,0x59,0x20,0x55,0x4E,0x4B,0x4E,0x4F,0x57,0x4E,0x0D,0x0A]

/-- A v2 LOCAL header without addresses. -/
private def loc : B := [0x0D,0x0A,0x0D,0x0A,0x00,0x0D,0x0A,0x51,0x55,0x49,0x54,0x0A,0x20,0x00,0x00,0x00]

private def locH : V2.Header :=
  { header := loc, version := .two, command := .loc, protocol := .unspec, addresses := .unspec }

private theorem unk_ok : V1.parseBytes unk = .ok ⟨unk, .unknown⟩ := by decide +kernel
private theorem unk_auto : Auto.parse unk = .v1 (.ok ⟨unk, .unknown⟩) := (C06.tag_v1 _ _).mpr unk_ok
private theorem loc_ok : V2.parse loc = .ok locH := by decide +kernel

example : V1.parseBytes unk = .ok ⟨unk, .unknown⟩ := unk_ok
example : V1.parseBytes (unk ++ [0x58]) = .ok ⟨unk, .unknown⟩ := by decide +kernel
example : V1.parseBytes (unk ++ [0x0D, 0x0A, 0xFF]) = .ok ⟨unk, .unknown⟩ := by decide +kernel
example : V1.parseStr (unk ++ [0xE2, 0x82, 0xAC]) = .ok ⟨unk, .unknown⟩ := by decide +kernel
example : Auto.parse (unk ++ [0x58]) = .v1 (.ok ⟨unk, .unknown⟩) := by decide +kernel
example : Auto.parse unk = .v1 (.ok ⟨unk, .unknown⟩) := unk_auto
example : V2.parse loc = .ok locH ∧ V2.parse (loc ++ [0x58, 0x59]) = .ok locH ∧
    Auto.parse (loc ++ [0x58, 0x59]) = .v2 (.ok locH) := by decide +kernel
example (t : B) : Auto.parse (loc ++ t) = .v2 (.ok locH) :=
  ((auto_trailing (x := loc) t).1 _ ((C06.tag_v2 _ _).mpr loc_ok)).1
/-- Through the theorem: whatever follows `PROXY UNKNOWN\r\n`, the result is the same. -/
example (t : B) : V1.parseBytes (unk ++ t) = .ok ⟨unk, .unknown⟩ :=
  (v1_bytes_trailing unk_ok t).1
example (t : B) : Auto.parse (unk ++ t) = .v1 (.ok ⟨unk, .unknown⟩) :=
  ((auto_trailing (x := unk) t).2 _ unk_auto).1

example (t₁ t₂ : B) : V1.parseBytes (unk ++ t₁) = V1.parseBytes (unk ++ t₂) :=
  ((result_is_function_of_header (x := unk) t₁ t₂).2.1 ⟨unk, .unknown⟩ unk_ok).1
example (t₁ t₂ : B) : V2.parse (loc ++ t₁) = V2.parse (loc ++ t₂) :=
  ((result_is_function_of_header (x := loc) t₁ t₂).1 locH loc_ok).1
example (t₁ t₂ : B) : Auto.parse (loc ++ t₁) = Auto.parse (loc ++ t₂) :=
  ((result_is_function_of_header (x := loc) t₁ t₂).2.2.1 locH ((C06.tag_v2 _ _).mpr loc_ok)).1
example (t₁ t₂ : B) : Auto.parse (unk ++ t₁) = Auto.parse (unk ++ t₂) :=
  ((result_is_function_of_header (x := unk) t₁ t₂).2.2.2 ⟨unk, .unknown⟩ unk_auto).1
/-- Text entry point: `PROXY UNKNOWN\r\n` followed by `€` or by `GET`. -/
example : V1.parseStr (unk ++ [0xE2, 0x82, 0xAC]) = V1.parseStr (unk ++ [0x47, 0x45, 0x54]) :=
  (result_is_function_of_header_str (x := unk) (h := ⟨unk, .unknown⟩) (by decide +kernel) _ _
    (by decide +kernel) (by decide +kernel)).1
/-- The boundary hypothesis of `v1_str_header_append` is needed: a continuation byte right after
the header (not a `&str`) is `InvalidSuffix`. -/
example : V1.parseStr (unk ++ [0x82]) = .error .invalidSuffix := by decide +kernel
example : ∃ c, V1.firstCR (unk ++ [0x47]) = some c ∧ byteAt (unk ++ [0x47]) (c + 1) = LF := by
  obtain ⟨c, h1, -, -, h4, -⟩ :=
    (v1_line_through_lf (x := unk ++ [0x47])).1 ⟨unk, .unknown⟩ (v1_bytes_trailing unk_ok _).1
  exact ⟨c, h1, h4⟩

end C04
