import PppModel.Lemmas.V2Stream

/-!
# C17 — v2 incomplete errors state exactly how many bytes are present and needed
-/

namespace C17
open V2

/-- Before the 16-byte fixed part is complete the error reports the number of
bytes supplied (and the input is still a possible v2 header). -/
theorem incomplete_exact {x : B} {n : Nat} (h : V2.parse x = .error (.incomplete n)) :
    n = x.length ∧ x.length < 16 ∧ x.take 12 <+: Spec.V2.signature := by
  rcases parse_cases x with ⟨e, hg, he⟩ | ⟨_, _, _, _, _, e, -, hc, he⟩ | ⟨c, f, t, hi, lo, p, rfl⟩
  · rw [he] at h; cases h
    rcases gate_error hg with ⟨h1, h2, h3⟩ | ⟨h1, -⟩
    · cases h1; exact ⟨rfl, h2, h3⟩
    · cases h1
  · rw [he] at h; cases h
    cases control_error_terminal hc
  · rw [parse_wf] at h
    rcases ite_eq_cases h with ⟨-, h⟩ | ⟨-, h⟩
    · cases h
    · rcases ite_eq_cases h with ⟨-, h⟩ | ⟨-, h⟩ <;> cases h

/-- Afterwards it reports the payload bytes present and the declared payload
length. -/
theorem partial_exact {x : B} {a b : Nat} (h : V2.parse x = .error (.partialHdr a b)) :
    16 ≤ x.length ∧ a = x.length - 16 ∧ b = be16 (byteAt x 14) (byteAt x 15) ∧ a < b := by
  obtain ⟨c, f, t, hi, lo, p, rfl, -, h2, rfl, rfl⟩ := partial_frame h
  rw [frame_length, frame_hi, frame_lo]
  exact ⟨Nat.le_add_right _ _, (Nat.add_sub_cancel_left ..).symm, rfl, h2⟩

/-- Supplying fewer than the missing number of bytes leaves the result
incomplete, with correspondingly updated counts. -/
theorem partial_progress {x : B} {a b : Nat} (h : V2.parse x = .error (.partialHdr a b))
    (ys : B) (hy : ys.length < b - a) :
    V2.parse (x ++ ys) = .error (.partialHdr (a + ys.length) b) := by
  obtain ⟨c, f, t, hi, lo, p, rfl, h1, h2, rfl, rfl⟩ := partial_frame h
  rw [frame_append, parse_wf, if_neg (Nat.not_lt.mpr h1), List.length_append,
    if_pos (Nat.add_lt_of_lt_sub' hy)]

/-- Supplying exactly the missing number of bytes, whatever their values, turns
the result into a success whose header is the whole input. -/
theorem partial_completion {x : B} {a b : Nat} (h : V2.parse x = .error (.partialHdr a b))
    (ys : B) (hy : ys.length = b - a) :
    ∃ hd, V2.parse (x ++ ys) = .ok hd ∧ hd.header = x ++ ys := by
  obtain ⟨c, f, t, hi, lo, p, rfl, h1, h2, rfl, rfl⟩ := partial_frame h
  have hl : (p ++ ys).length = be16 hi lo := by
    rw [List.length_append, hy, Nat.add_sub_cancel' (Nat.le_of_lt h2)]
  rw [frame_append, parse_wf, if_neg (Nat.not_lt.mpr h1), hl, if_neg (Nat.lt_irrefl _)]
  exact ⟨_, rfl, by rw [List.take_of_length_le (Nat.le_of_eq hl)]⟩

/-- More than the missing bytes: still a success, and the surplus is not part of
the header (cf. C04). -/
theorem partial_completion_surplus {x : B} {a b : Nat} (h : V2.parse x = .error (.partialHdr a b))
    (ys : B) (hy : b - a ≤ ys.length) :
    ∃ hd, V2.parse (x ++ ys) = .ok hd ∧ hd.header = x ++ ys.take (b - a) := by
  obtain ⟨hd, h1, h2⟩ := partial_completion h (ys.take (b - a)) (by rw [List.length_take, Nat.min_eq_left hy])
  refine ⟨hd, ?_, h2⟩
  rw [← List.take_append_drop (b - a) ys, ← List.append_assoc]
  exact parse_trailing h1 _

/-- Non-vacuity: 16 + 3 of 16 + 12 bytes present. -/
example : V2.parse [0x0D, 0x0A, 0x0D, 0x0A, 0x00, 0x0D, 0x0A, 0x51, 0x55, 0x49, 0x54, 0x0A,
    0x21, 0x11, 0x00, 0x0C, 1, 2, 3] = .error (.partialHdr 3 12) := by decide +kernel

example : V2.parse [0x0D, 0x0A, 0x0D] = .error (.incomplete 3) := by decide +kernel

/-- **Forward form** (the quantifier of the property text: every accepted header, every number of
bytes present). The first `n` bytes of an accepted header, `n` smaller than its length, give
`Incomplete(n)` before the fixed part is complete and `Partial(n - 16, declared length)`
afterwards. Re-export of `V2.prefix_incomplete_exact`. -/
theorem truncated_exact {x : B} {h : V2.Header} (hp : V2.parse x = .ok h) (n : Nat)
    (hn : n < h.header.length) :
    V2.parse (x.take n) = .error (if n < 16 then .incomplete n
      else .partialHdr (n - 16) (be16 (byteAt x 14) (byteAt x 15))) :=
  V2.prefix_incomplete_exact hp n hn

/-- **`Partial(a, b)` exactly.** The parser reports `Partial(a, b)` iff the signature and the two
control bytes are those of a well-formed header, the declared length `b` is at least the family's
address-block size, `a` is the number of payload bytes present and it is less than `b`. -/
theorem partial_iff (x : B) (a b : Nat) :
    V2.parse x = .error (.partialHdr a b) ↔
      x.take 12 = Spec.V2.signature ∧ 16 ≤ x.length ∧
      (∃ c f t, byteAt x 12 = Spec.V2.versionCommand c ∧ byteAt x 13 = Spec.V2.familyTransport f t ∧
        Spec.V2.familySize f ≤ b) ∧
      b = be16 (byteAt x 14) (byteAt x 15) ∧ a = x.length - 16 ∧ x.length < 16 + b := by
  constructor
  · intro h
    obtain ⟨c, f, t, hi, lo, p, rfl, h1, h2, rfl, rfl⟩ := partial_frame h
    rw [frame_hi, frame_lo, frame_length]
    exact ⟨frame_sig .., Nat.le_add_right _ _, ⟨c, f, t, frame_vc .., frame_afp .., h1⟩, rfl,
      (Nat.add_sub_cancel_left ..).symm, Nat.add_lt_add_left h2 16⟩
  · rintro ⟨g1, g2, ⟨c, f, t, c1, c2, h1⟩, rfl, rfl, h2⟩
    have hp : (x.drop 16).length < be16 (byteAt x 14) (byteAt x 15) := by
      rw [List.length_drop]; exact Nat.sub_lt_left_of_lt_add g2 h2
    rw [congrArg parse (eq_frame g1 g2), c1, c2, parse_wf, if_neg (Nat.not_lt.mpr h1), if_pos hp,
      List.length_drop]

/-- **`Incomplete(n)` exactly.** -/
theorem incomplete_iff (x : B) (n : Nat) :
    V2.parse x = .error (.incomplete n) ↔
      n = x.length ∧ x.length < 16 ∧ x.take 12 <+: Spec.V2.signature := by
  constructor
  · exact incomplete_exact
  · rintro ⟨rfl, h1, h2⟩
    exact parse_of_gate_error (by rw [gate_eq, sig_eq_spec, if_pos h2, if_pos h1])

/-- Non-vacuity: the header of the example above, accepted, and two of its truncations through
`truncated_exact`; the right-hand sides of the two iffs on concrete inputs. -/
private def v4 : B := [0x0D, 0x0A, 0x0D, 0x0A, 0x00, 0x0D, 0x0A, 0x51, 0x55, 0x49, 0x54, 0x0A,
    0x21, 0x11, 0x00, 0x0C, 1, 2, 3, 4, 5, 6, 7, 8, 9, 10, 11, 12]

private def v4H : V2.Header :=
  { header := v4, version := .two, command := .proxy, protocol := .stream,
    addresses := .ipv4 { srcAddr := ⟨1, 2, 3, 4⟩, srcPort := 2314, dstAddr := ⟨5, 6, 7, 8⟩, dstPort := 2828 } }

private theorem v4_ok : V2.parse v4 = .ok v4H := by decide +kernel

example : V2.parse v4 = .ok v4H := v4_ok
example : V2.parse (v4.take 19) = .error (.partialHdr 3 12) :=
  truncated_exact v4_ok 19 (by decide +kernel)
example : V2.parse (v4.take 7) = .error (.incomplete 7) :=
  truncated_exact v4_ok 7 (by decide +kernel)
example : V2.parse (v4.take 19) = .error (.partialHdr 3 12) :=
  (partial_iff _ 3 12).mpr ⟨by decide, by decide, ⟨.proxy, .ipv4, .stream, by decide, by decide, by decide⟩,
    by decide, by decide, by decide⟩
example : V2.parse (v4.take 7) = .error (.incomplete 7) :=
  (incomplete_iff _ 7).mpr ⟨by decide +kernel, by decide +kernel, by decide +kernel⟩

end C17
