import PppModel.Lemmas.Builder

/-!
# C10 — builder output is the in-order concatenation of what was written, nothing else
-/

namespace C10
open V2 Spec.Builder

/-- General form: from any state with nothing written yet. -/
theorem run_is_reference {b : Builder} {vc afp : UInt8} {addr : Addresses}
    (h : Shape b vc afp addr none []) (ops : List Op) (out : B) (hr : b.run ops = some out) :
    reference vc afp addr ops = some out := by
  rw [run_exact h] at hr
  exact (Option.ite_none_right_eq_some.mp hr).2

/-- **C10** for `Builder::new`: a successful build returns the signature, the two
control bytes as given, the length field, and the payload encodings in call
order. -/
theorem output_is_reference (vc afp : UInt8) (ops : List Op) (out : B)
    (h : (Builder.new vc afp).run ops = some out) : reference vc afp .unspec ops = some out :=
  run_is_reference (shape_new vc afp) ops out h

/-- **C10** for `Builder::with_addresses`: the family nibble is taken from the
address value, whose encoding follows the fixed part. -/
theorem output_is_reference_with (vc : UInt8) (t : Transport) (a : Addresses) (ops : List Op) (out : B)
    (h : (Builder.withAddresses vc t a).run ops = some out) :
    reference vc (Spec.V2.familyTransport a.family t) a ops = some out :=
  run_is_reference (shape_withAddresses_spec vc t a) ops out h

/-! ### capacity reservations have no effect -/

def isReserve : Op → Bool
  | .reserve _ => true
  | _ => false

/-- A history without its `reserve_capacity` calls writes the same payloads and ends with the
same explicit length. -/
theorem filter_reserve (ops : List Op) :
    (ops.filter (fun o => !isReserve o)).flatMap opPayloads = ops.flatMap opPayloads ∧
    ∀ acc, lengthFrom acc (ops.filter (fun o => !isReserve o)) = lengthFrom acc ops := by
  induction ops with
  | nil => exact ⟨rfl, fun _ => rfl⟩
  | cons op ops ih =>
    cases op with
    | reserve n => exact ih
    | _ =>
      rw [List.filter_cons_of_pos (by rfl), List.flatMap_cons, List.flatMap_cons, ih.1]
      exact ⟨rfl, fun _ => ih.2 _⟩

/-
**Assumption A3 (capacity hints; outside the model).** `Builder.step (.reserve n)` is a
no-op on the output for every `n : Nat`. In Rust `reserve_capacity(n)` adds `n` to
`additional_capacity` (before the first write) or calls `Vec::reserve(n)` (after it), and
`write_header` allocates `Vec::with_capacity(16 + addresses.len() + additional_capacity)`.
`reserve_irrelevant` below (and `reserve_irrelevant_with`) therefore describe the Rust only
under the assumption that

* the sum of all capacity hints of the history, plus `16 + addresses.len()`, plus the bytes
  already in the buffer, stays below `isize::MAX` (and below `usize::MAX`, so that
  `additional_capacity += capacity` does not overflow), and
* the allocation succeeds.

Otherwise Rust panics with "capacity overflow" (or, with overflow checks, on the addition; or
aborts on allocation failure) — e.g. `Builder::new(0x21, 0).reserve_capacity(1 << 63).build()`
panics in every build profile. Such panics are not modelled: `n` is unbounded here, and the
theorem says nothing about histories that violate A3.
-/
/-- Removing every `reserve_capacity` call from a history does not change what is
built (or whether it is built). -/
theorem reserve_irrelevant (vc afp : UInt8) (ops : List Op) :
    (Builder.new vc afp).run (ops.filter (fun o => !isReserve o)) = (Builder.new vc afp).run ops :=
  run_congr (shape_new vc afp).sim (filter_reserve ops).1 (filter_reserve ops).2

theorem reserve_irrelevant_with (vc : UInt8) (t : Transport) (a : Addresses) (ops : List Op) :
    (Builder.withAddresses vc t a).run (ops.filter (fun o => !isReserve o)) =
      (Builder.withAddresses vc t a).run ops :=
  run_congr (shape_withAddresses vc t a).sim (filter_reserve ops).1 (filter_reserve ops).2

/-! ### one batch = the same payloads one at a time -/

/-- One batch and one call each write the same payloads and leave the explicit length alone. -/
theorem batch_split (pre post : List Op) (ps : List Payload) :
    (pre ++ .writePayloads ps :: post).flatMap opPayloads =
      (pre ++ (ps.map Op.writePayload ++ post)).flatMap opPayloads ∧
    ∀ acc, lengthFrom acc (pre ++ .writePayloads ps :: post) =
      lengthFrom acc (pre ++ (ps.map Op.writePayload ++ post)) := by
  have h1 : (ps.map Op.writePayload).flatMap opPayloads = ps := by
    simp [List.flatMap_map, opPayloads]
  have h2 := lengthFrom_map Op.writePayload (fun _ _ h => by cases h) ps
  refine ⟨by simp [List.flatMap_append, opPayloads, h1], fun acc => ?_⟩
  simp only [lengthFrom, List.foldl_append, List.foldl_cons] at h2 ⊢
  rw [h2]

/-- Writing payloads as one batch or one call each gives the same result, at any
position of any history. -/
theorem batch_irrelevant (vc afp : UInt8) (pre post : List Op) (ps : List Payload) :
    (Builder.new vc afp).run (pre ++ .writePayloads ps :: post) =
      (Builder.new vc afp).run (pre ++ (ps.map .writePayload ++ post)) :=
  run_congr (shape_new vc afp).sim (batch_split pre post ps).1 (batch_split pre post ps).2

theorem batch_irrelevant_with (vc : UInt8) (t : Transport) (a : Addresses) (pre post : List Op)
    (ps : List Payload) :
    (Builder.withAddresses vc t a).run (pre ++ .writePayloads ps :: post) =
      (Builder.withAddresses vc t a).run (pre ++ (ps.map .writePayload ++ post)) :=
  run_congr (shape_withAddresses vc t a).sim (batch_split pre post ps).1 (batch_split pre post ps).2

/-- A TLV value, the equivalent (type, bytes) pair and `write_tlv` are the same call. -/
theorem tlv_pair_same (b : Builder) (k : UInt8) (v : B) :
    b.step (.writePayload (.tlv k v)) = b.step (.writePayload (.pair k v)) ∧
    b.step (.writeTlv k v) = b.step (.writePayload (.tlv k v)) := ⟨rfl, rfl⟩

/-! ### The complete characterisation: when a history succeeds, and with what

`V2.opsOk n ops` (Lemmas/Builder.lean) is a purely arithmetic predicate on
chunk lengths: the writer's size guard is evaluated at the start of every
non-empty chunk and refuses it iff the buffer already holds more than
65535 + 16 bytes; a value with a length over 65535 is refused up front. -/

/-- **C10 / C09, exact form** for `Builder::new`: the history succeeds iff every write
passes the guard and, with no explicit length in force, the payload fits in 16
bits; then the output is the reference output; otherwise `build`/a write fails. -/
theorem run_exact (vc afp : UInt8) (ops : List Op) :
    (Builder.new vc afp).run ops =
      if opsOk 16 ops ∧ (lengthInForce ops ≠ none ∨ payloadLen ops ≤ 65535) then reference vc afp .unspec ops
      else none := by
  have := V2.run_exact (shape_new vc afp) ops
  rwa [show (Spec.V2.addrBytes .unspec).length = 0 from rfl, Nat.zero_add] at this

theorem run_exact_with_addresses (vc : UInt8) (t : Transport) (a : Addresses) (ops : List Op) :
    (Builder.withAddresses vc t a).run ops =
      if opsOk (16 + (Spec.V2.addrBytes a).length) ops ∧
          (lengthInForce ops ≠ none ∨ (Spec.V2.addrBytes a).length + payloadLen ops ≤ 65535)
      then reference vc (afpByte a.family t) a ops else none :=
  V2.run_exact (shape_withAddresses vc t a) ops

/-- Non-vacuity: a three-call history with a reservation and a batch. -/
example : (Builder.withAddresses 0x21 .stream
      (.ipv4 { srcAddr := ⟨1, 2, 3, 4⟩, srcPort := 80, dstAddr := ⟨5, 6, 7, 8⟩, dstPort := 443 })).run
      [.reserve 10, .writePayloads [.int 2 513, .slice [9]], .writeTlv 4 [42]] =
    some [0x0D, 0x0A, 0x0D, 0x0A, 0x00, 0x0D, 0x0A, 0x51, 0x55, 0x49, 0x54, 0x0A, 0x21, 0x11, 0, 19,
          1, 2, 3, 4, 5, 6, 7, 8, 0, 80, 1, 187, 2, 1, 9, 4, 0, 1, 42] := by decide +kernel

end C10
