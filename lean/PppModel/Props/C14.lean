import PppModel.Lemmas.V2

/-!
# C14 — v2 header views partition the header consistently
-/

namespace C14
open V2 Spec.V2

-- `hp` is not needed: the views of every header value partition its payload (`Header.views_partition`).
set_option linter.unusedVariables false in
/-- The address bytes followed by the TLV bytes are exactly the payload after
the 16-byte fixed part. -/
theorem views_partition {x : B} {h : Header} (hp : V2.parse x = .ok h) :
    h.addressBytes ++ h.tlvBytes = h.header.drop 16 :=
  h.views_partition

/-- Sizes: the address view has the size of the family (the whole payload for the
unspecified family); payload length + 16 = total length = length of the raw
bytes; the payload length is the length field. -/
theorem lengths {x : B} {h : Header} (hp : V2.parse x = .ok h) :
    h.addressBytes.length = (if h.addressFamily = .unspec then h.length else familySize h.addressFamily) ∧
    h.length + 16 = h.len ∧ h.len = h.header.length ∧ h.asBytes = h.header ∧
    h.length = be16 (byteAt h.header 14) (byteAt h.header 15) ∧
    h.addresses.len = familySize h.addressFamily := by
  obtain ⟨hi, lo, q, -, -, hh, hq, hf, -⟩ := accepted_shape hp
  have hl : h.length = q.length := by rw [Header.length, hh, minLen, frame_drop]
  refine ⟨?_, ?_, rfl, rfl, ?_, (size_eq_spec _).symm ▸ rfl⟩
  · rw [h.addressBytes_eq, Family.byteLength_getD, hh, frame_drop, List.length_take, hl]
    apply Nat.min_eq_left
    split
    · exact Nat.le_refl _
    · exact hf
  · rw [hl, Header.len, hh, frame_length]; exact Nat.add_comm ..
  · rw [hl, hq, hh, frame_hi, frame_lo]

/-- The reported family is the family nibble on the wire and the family of the
decoded address value. -/
theorem family {x : B} {h : Header} (hp : V2.parse x = .ok h) :
    byteAt h.header 13 = familyTransport h.addressFamily h.protocol ∧
    byteAt h.header 12 = versionCommand h.command ∧
    h.addressFamily = h.addresses.family ∧
    byteAt x 13 = byteAt h.header 13 := by
  obtain ⟨hi, lo, q, trail, hx, hh, -⟩ := accepted_shape hp
  refine ⟨hh ▸ frame_afp .., hh ▸ frame_vc .., rfl, ?_⟩
  rw [hx, hh, frame_append, frame_afp, frame_afp]

/-- The decoded address value is the big-endian decoding of the address view:
re-encoding it gives the view back, and decoding the view gives the value. -/
theorem addresses_decode {x : B} {h : Header} (hp : V2.parse x = .ok h) :
    (h.addressFamily ≠ .unspec → addrBytes h.addresses = h.addressBytes) ∧
    (h.addressFamily = .unspec → h.addresses = .unspec) ∧
    (h.addressFamily ≠ .unspec → parseAddresses h.addressFamily h.addressBytes = h.addresses) := by
  obtain ⟨hi, lo, q, -, -, hh, -, hf, ha⟩ := accepted_shape hp
  -- with a family, the address view is the block the parser decoded
  have hv : h.addressFamily ≠ .unspec → h.addressBytes = q.take (familySize h.addressFamily) := fun hne => by
    rw [h.addressBytes_eq, Family.byteLength_getD, if_neg hne, hh, frame_drop]
  refine ⟨fun hne => ?_, ?_, fun hne => by rw [hv hne, ← ha]⟩
  · rw [hv hne, ha]
    exact addrBytes_parseAddresses _ _ (List.length_take_of_le hf)
  · show h.addresses.family = .unspec → _
    cases h.addresses with
    | unspec => exact fun _ => rfl
    | _ => exact nofun

/-- Owned copies expose the same views (ownership is erased in the model). -/
theorem owned_same (h : Header) : h.toOwned = h := rfl

/-- Non-vacuity: an IPv4 header with a 4-byte TLV section is accepted and its views are as stated. -/
example :
    (V2.parse [0x0D, 0x0A, 0x0D, 0x0A, 0x00, 0x0D, 0x0A, 0x51, 0x55, 0x49, 0x54, 0x0A,
               0x21, 0x11, 0x00, 0x10, 127, 0, 0, 1, 192, 168, 1, 1, 0, 80, 1, 187,
               4, 0, 1, 42]).toOption.map (fun h => (h.addressBytes, h.tlvBytes, h.length)) =
      some ([127, 0, 0, 1, 192, 168, 1, 1, 0, 80, 1, 187], [4, 0, 1, 42], 16) := by decide +kernel

/-- Where the partition splits (the non-degenerate content of "partition"; `views_partition`
alone holds for any split point): on an accepted header `address_bytes_end()` lies inside
the buffer and not below 16 (so the two Rust slices are in range), the address view is the
first `size` bytes of the payload and the TLV view is everything after them, where `size`
is the protocol's size of the header's family, or the whole payload for the unspecified
family. -/
theorem split_point {x : B} {h : Header} (hp : V2.parse x = .ok h) :
    16 ≤ h.addressBytesEnd ∧ h.addressBytesEnd ≤ h.header.length ∧
    h.addressBytes = (h.header.drop 16).take
      (if h.addressFamily = .unspec then h.length else familySize h.addressFamily) ∧
    h.tlvBytes = (h.header.drop 16).drop
      (if h.addressFamily = .unspec then h.length else familySize h.addressFamily) := by
  obtain ⟨h1, h2⟩ := h.addressBytesEnd_bounds (accepted_len hp)
  exact ⟨h1, h2, by rw [h.addressBytes_eq, Family.byteLength_getD], by rw [h.tlvBytes_eq, Family.byteLength_getD]⟩

/-- The helper methods named in the anchors: `Header::is_empty` is `false` on every
accepted header; `Addresses::is_empty` holds exactly for the unspecified family;
`u16::from(AddressFamily)` is the protocol's address-block size (no `as u16` wrap);
for the unspecified family the TLV view is empty. -/
theorem helpers {x : B} {h : Header} (hp : V2.parse x = .ok h) :
    h.isEmpty = false ∧ h.addresses.isEmpty = decide (h.addressFamily = .unspec) ∧
    h.addressFamily.toU16 = familySize h.addressFamily ∧
    (h.addressFamily = .unspec → h.tlvBytes = []) := by
  obtain ⟨hi, lo, q, -, -, hh, -⟩ := accepted_shape hp
  refine ⟨by rw [Header.isEmpty, hh]; rfl, ?_, ?_, h.tlvBytes_unspec⟩
  · show h.addresses.isEmpty = decide (h.addresses.family = .unspec)
    cases h.addresses <;> rfl
  · cases h.addressFamily <;> rfl

/-- The nibbles on the wire, stated as nibbles: the high half of byte 13 is the family
code of the protocol document (0, 1, 2, 3), the low half the transport code (0, 1, 2), and
the high half of byte 12 is the version, 2. -/
theorem nibbles {x : B} {h : Header} (hp : V2.parse x = .ok h) :
    (byteAt h.header 13).toNat / 16 = familyNibble h.addressFamily ∧
    (byteAt h.header 13).toNat % 16 = transportNibble h.protocol ∧
    (byteAt h.header 12).toNat / 16 = 2 := by
  obtain ⟨h13, h12, -, -⟩ := family hp
  rw [h13, h12]
  refine ⟨?_, ?_, ?_⟩
  · cases h.addressFamily <;> cases h.protocol <;> decide
  · cases h.addressFamily <;> cases h.protocol <;> decide
  · cases h.command <;> decide

/-- Non-vacuity of `split_point` / `helpers` / `nibbles`: the IPv6 / DGRAM header with an
empty TLV section, and the IPv4 header above; the values are the ones the theorems give. -/
example :
    (V2.parse [0x0D, 0x0A, 0x0D, 0x0A, 0x00, 0x0D, 0x0A, 0x51, 0x55, 0x49, 0x54, 0x0A,
               0x21, 0x11, 0x00, 0x10, 127, 0, 0, 1, 192, 168, 1, 1, 0, 80, 1, 187,
               4, 0, 1, 42]).toOption.map
      (fun h => ([h.addressBytesEnd, h.addressFamily.toU16,
                  (byteAt h.header 13).toNat / 16, (byteAt h.header 13).toNat % 16,
                  (byteAt h.header 12).toNat / 16], h.isEmpty, h.addresses.isEmpty)) =
      some ([28, 12, 1, 1, 2], false, false) := by decide +kernel

example :
    (V2.parse [0x0D, 0x0A, 0x0D, 0x0A, 0x00, 0x0D, 0x0A, 0x51, 0x55, 0x49, 0x54, 0x0A,
               0x20, 0x02, 0x00, 0x03, 7, 8, 9]).toOption.map
      (fun h => ([h.addressBytesEnd, h.addressFamily.toU16, (byteAt h.header 13).toNat / 16,
                  (byteAt h.header 13).toNat % 16], h.addressBytes, h.tlvBytes,
                 h.addresses.isEmpty)) =
      some ([19, 0, 0, 2], [7, 8, 9], [], true) := by decide +kernel

end C14
